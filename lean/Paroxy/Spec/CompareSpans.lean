/-
Specification side of C08, independent of the Python table: what a 7-character key *spells*,
the names of the user manual (docs/md/pipeline_documentation.md, table of the 13 Allen relations,
and the list of synonyms), and the converse pairs.
-/
import Paroxy.Model.CompareSpans
namespace Paroxy.Spec
open Paroxy

inductive Letter | x | y deriving DecidableEq, Repr, Inhabited
/-- The three operators a key is made of. -/
inductive KOp | lt | le | eq deriving DecidableEq, Repr, Inhabited

/-- A key: an arrangement of the letters `x x y y` and three operators. -/
structure Key where
  l1 : Letter
  l2 : Letter
  l3 : Letter
  l4 : Letter
  o1 : KOp
  o2 : KOp
  o3 : KOp
  deriving DecidableEq, Repr, Inhabited

def Letter.char : Letter → Char | .x => 'x' | .y => 'y'
def KOp.char : KOp → Char | .lt => '<' | .le => '≤' | .eq => '='
def KOp.op : KOp → Op | .lt => .lt | .le => .le | .eq => .eq
def KOp.Rel : KOp → Int → Int → Prop
  | .lt, a, b => a < b
  | .le, a, b => a ≤ b
  | .eq, a, b => a = b

/-- The seven characters of the key. -/
def Key.chars (k : Key) : List Char :=
  [k.l1.char, k.o1.char, k.l2.char, k.o2.char, k.l3.char, k.o3.char, k.l4.char]
def Key.str (k : Key) : String := String.ofList k.chars
def Letter.code : Letter → Nat | .x => 120 | .y => 121
def KOp.code : KOp → Nat | .lt => 60 | .le => 8804 | .eq => 61
/-- The key as a list of code points (`'x'`=120, `'y'`=121, `'<'`=60, `'≤'`=8804, `'='`=61). -/
def Key.codes (k : Key) : Codes :=
  [k.l1.code, k.o1.code, k.l2.code, k.o2.code, k.l3.code, k.o3.code, k.l4.code]

theorem Letter.code_eq (l : Letter) : l.code = l.char.toNat := by cases l <;> rfl
theorem KOp.code_eq (o : KOp) : o.code = o.char.toNat := by cases o <;> rfl

theorem Key.codes_eq_chars (k : Key) : k.codes = k.chars.map Char.toNat := by
  simp only [Key.codes, Key.chars, List.map, Letter.code_eq, KOp.code_eq]

def Letter.ofCode (n : Nat) : Option Letter := if n = 120 then some .x else if n = 121 then some .y else none
def KOp.ofCode (n : Nat) : Option KOp :=
  if n = 60 then some .lt else if n = 8804 then some .le else if n = 61 then some .eq else none

/-- Read a key back from its seven code points (any letters; see `Key.balanced`). -/
def parseKey : Codes → Option Key
  | [a, p, b, q, c, r, d] => do
    let l1 ← Letter.ofCode a; let l2 ← Letter.ofCode b; let l3 ← Letter.ofCode c; let l4 ← Letter.ofCode d
    let o1 ← KOp.ofCode p; let o2 ← KOp.ofCode q; let o3 ← KOp.ofCode r
    pure ⟨l1, l2, l3, l4, o1, o2, o3⟩
  | _ => none

/-- The six arrangements of two `x` and two `y`, in the generator's order
(`sorted(set(permutations("xxyy")))`). -/
def arrangements : List (Letter × Letter × Letter × Letter) :=
  [(.x,.x,.y,.y), (.x,.y,.x,.y), (.x,.y,.y,.x), (.y,.x,.x,.y), (.y,.x,.y,.x), (.y,.y,.x,.x)]
def kops : List KOp := [.lt, .le, .eq]

/-- The 162 keys = 6 arrangements × 3³ operator triples. -/
def allKeys : List Key :=
  arrangements.flatMap fun (a, b, c, d) =>
    kops.flatMap fun o1 => kops.flatMap fun o2 => kops.map fun o3 => ⟨a, b, c, d, o1, o2, o3⟩

/-- A key uses two `x` and two `y`. -/
def Key.balanced (k : Key) : Bool := decide ((k.l1, k.l2, k.l3, k.l4) ∈ arrangements)

/-- "the first x/y letter denoting the start and the second the end": the endpoint a letter
position denotes, given the letters before it. -/
def endpoint (l : Letter) (seenBefore : Bool) : Var :=
  match l, seenBefore with
  | .x, false => .x0 | .x, true => .x1 | .y, false => .y0 | .y, true => .y1

def Key.v1 (k : Key) : Var := endpoint k.l1 false
def Key.v2 (k : Key) : Var := endpoint k.l2 (k.l1 == k.l2)
def Key.v3 (k : Key) : Var := endpoint k.l3 (k.l1 == k.l3 || k.l2 == k.l3)
def Key.v4 (k : Key) : Var := endpoint k.l4 (k.l1 == k.l4 || k.l2 == k.l4 || k.l3 == k.l4)

/-- What the key spells, as a proposition on two integer spans: the conjunction of the three
adjacent comparisons on the named endpoints. -/
def Key.Holds (k : Key) (x y : Span) : Prop :=
  let ρ := spanEnv x y
  k.o1.Rel (ρ k.v1) (ρ k.v2) ∧ k.o2.Rel (ρ k.v2) (ρ k.v3) ∧ k.o3.Rel (ρ k.v3) (ρ k.v4)

instance (o : KOp) (a b : Int) : Decidable (o.Rel a b) := by
  cases o <;> simp only [KOp.Rel] <;> infer_instance
instance (k : Key) (x y : Span) : Decidable (k.Holds x y) := by
  unfold Key.Holds; infer_instance

/-- The same chain as a Python expression. -/
def Key.chain (k : Key) : PyExpr :=
  .cmp k.v1 [(k.o1.op, k.v2), (k.o2.op, k.v3), (k.o3.op, k.v4)]

theorem KOp.eval_iff (o : KOp) (a b : Int) : o.op.eval a b = true ↔ o.Rel a b := by
  cases o <;> simp [KOp.op, Op.eval, KOp.Rel]

theorem Key.chain_holds (k : Key) (x y : Span) : k.chain.holds x y = true ↔ k.Holds x y := by
  simp [Key.chain, PyExpr.holds, PyExpr.eval, evalChain, Key.Holds, KOp.eval_iff]

/-- Exchange the roles of `x` and `y` in a key. -/
def Letter.swap : Letter → Letter | .x => .y | .y => .x
def Key.swap (k : Key) : Key := { k with l1 := k.l1.swap, l2 := k.l2.swap, l3 := k.l3.swap, l4 := k.l4.swap }

private def K (a b c d : Letter) (o1 o2 o3 : KOp) : Key := ⟨a, b, c, d, o1, o2, o3⟩

/-- The 7 rows of the manual's table: `X name Y` and its key. -/
def manualDirectS : List (String × Key) := [
  ("equals",   K .x .y .x .y .eq .le .eq),  -- x=y≤x=y
  ("starts",   K .x .y .x .y .eq .le .le),  -- x=y≤x≤y
  ("during",   K .y .x .x .y .le .le .le),  -- y≤x≤x≤y
  ("finishes", K .y .x .x .y .le .le .eq),  -- y≤x≤x=y
  ("before",   K .x .x .y .y .le .le .le),  -- x≤x≤y≤y
  ("meets",    K .x .x .y .y .le .eq .le),  -- x≤x=y≤y
  ("overlaps", K .x .y .x .y .le .le .le)   -- x≤y≤x≤y
]

def manualDirect : List (Codes × Key) := manualDirectS.map fun (n, k) => (codesOf n, k)

/-- The fourth column of the manual's table: `Y converse X` for each row (`equals` is its own
converse). -/
def conversesS : List (String × String) := [
  ("equals", "equals"), ("starts", "started by"), ("during", "contains"),
  ("finishes", "finished by"), ("before", "after"), ("meets", "met by"),
  ("overlaps", "overlapped by")
]

def converses : List (Codes × Codes) := conversesS.map fun (a, b) => (codesOf a, codesOf b)

/-- The 13 Allen names: the 7 direct ones and the 6 converses, whose key is the direct key with
`x` and `y` exchanged. -/
def manualAllen : List (Codes × Key) :=
  manualDirect ++
    (converses.drop 1).filterMap fun (d, c) => (dictGet? manualDirect d).map fun k => (c, k.swap)

/-- The six synonyms (manual: "such as inside for during, equal or is for equals"; the list the
manual links to). -/
def synonymsS : List (String × String) := [
  ("ended by", "finished by"), ("ends", "finishes"), ("equal", "equals"),
  ("in", "during"), ("inside", "during"), ("is", "equals")
]

def synonyms : List (Codes × Codes) := synonymsS.map fun (a, b) => (codesOf a, codesOf b)

/-- All 19 names with the key each denotes. -/
def aliases : List (Codes × Key) :=
  manualAllen ++ synonyms.filterMap fun (s, n) => (dictGet? manualAllen n).map fun k => (s, k)

/-- name ↦ key, for the 181 entries. -/
def allNames : List (Codes × Codes) :=
  allKeys.map (fun k => (k.codes, k.codes)) ++ aliases.map (fun (n, k) => (n, k.codes))

end Paroxy.Spec
