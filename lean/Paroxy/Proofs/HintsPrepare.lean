/-
Helper lemmas for C12: the preparation steps of the repaired `get_program` (marker normalised line
by line, blank ends trimmed) turn the text of a decorated program with freely spelled markers into
the text of its trimmed form.
-/
import Paroxy.Proofs.HintsRound
namespace Paroxy.Hints

variable {O : CharOracle}

/-- Hygiene of every line of a decorated program (before centrifugation, markers spelled freely). -/
structure LinesOk (O : CharOracle) (d : Decorated) : Prop where
  ok : ∀ c ∈ codeLines d, (OkCode O) c
  whole : ∀ L ∈ wholeLabels d, (Clean O) L
  loose : ∀ l ∈ d, (LooseOk O) l

/-- The hypothesis is `Props.C12.linesOk O d = true`, unfolded. -/
theorem linesOk_of (d : Decorated)
    (h : ((codeLines d).all (okCode O) && (wholeLabels d).all (cleanLabel O) && (looseOk O) d) = true) : (LinesOk O) d := by
  simp only [Bool.and_eq_true, List.all_eq_true, looseOk] at h
  obtain ⟨⟨h1, h2⟩, h3, h4⟩ := h
  refine ⟨fun c hc => okCode_of c (h1 c hc), fun L hL => clean_of L (h2 L hL), fun l hl => ⟨?_, ?_⟩⟩
  · intro c hc; subst hc
    have hc := (mem_codeLines_iff _ _).mpr hl
    have := h3 c hc
    exact ⟨this.1, fun x hx => ⟨(noHash_iff _).mp (this.2 x hx), (okCode_of c (h1 c hc)).clean x hx⟩⟩
  · intro n L hL; subst hL
    have hm := (mem_wholeLabels_iff _ _).mpr ⟨n, hl⟩
    exact ⟨(noHash_iff _).mp (h4 L hm), clean_of L (h2 L hm)⟩

theorem renderHints_getLast (hs : List Hint) (hne : hs ≠ []) (hc : ∀ h ∈ hs, (Clean O) h.label) :
    ∀ x, (renderHints hs).getLast? = some x → (isSpacePy O) x = false := by
  intro x hx
  obtain ⟨init, last, rfl⟩ : ∃ init last, hs = init ++ [last] := ⟨_, _, (List.dropLast_concat_getLast hne).symm⟩
  have hl := hc last (by simp)
  rw [renderHints, List.flatMap_append, List.flatMap_singleton, ← List.append_assoc] at hx
  exact renderHint_nosp last hl x
    (List.mem_of_getLast? ((suffix_getLast? (List.suffix_append _ _) (renderHint_ne last hl)).trans hx))

theorem tight_renderLine (d : Decorated) (ok : ∀ c ∈ codeLines d, (OkCode O) c)
    (hw : ∀ L ∈ wholeLabels d, (Clean O) L) : ∀ l ∈ d.map renderLine, (TightLine O) l := by
  refine List.forall_mem_map.mpr fun l hl =>
    ⟨renderLine_noNL d ok hw _ (List.mem_map_of_mem hl), fun x hx => not_isSpacePy_of x ?_⟩
  cases l with
  | code c =>
    have ok := ok c ((mem_codeLines_iff d c).mpr hl)
    simp only [renderLine] at hx
    by_cases h : c.hints = []
    · rw [renderCode_plain c h] at hx; exact ok.notrail x hx
    · rw [renderCode_hinted c h, hintPart, ← List.append_assoc, ← List.append_assoc] at hx
      obtain ⟨R, hR⟩ := renderHints_head c.hints h
      exact renderHints_getLast _ h ok.clean _
        ((suffix_getLast? (List.suffix_append _ _) (by rw [hR]; exact List.cons_ne_nil _ _)).trans hx)
  | isolated n L =>
    have hL := hw L ((mem_wholeLabels_iff d L).mpr ⟨n, hl⟩)
    simp only [renderLine] at hx
    rw [← List.append_assoc] at hx
    exact hL.nosp _ (List.mem_of_getLast? ((suffix_getLast? (List.suffix_append _ _) hL.ne).trans hx))

theorem renderLine_isEmpty (l : Line) (hc : ∀ c, l = .code c → (OkCode O) c) :
    (renderLine l).isEmpty = isBlankLine l := by
  cases l with
  | code c =>
    have ok := hc c rfl
    simp only [renderLine, isBlankLine]
    by_cases h : c.hints = []
    · simp [renderCode_plain c h, h]
    · have hne := ok.hinted h
      cases hcode : c.code with
      | nil => exact absurd hcode hne
      | cons x t => simp [renderCode_hinted c h, hcode]
  | isolated n L => simp [renderLine, isBlankLine, m14, m13]

theorem coreLines_map (d : Decorated) (hc : ∀ c ∈ codeLines d, (OkCode O) c) :
    coreLines (d.map renderLine) = (core d).map renderLine :=
  trimBoth_map renderLine (·.isEmpty) isBlankLine d
    fun l hl => renderLine_isEmpty l (fun c e => hc c ((mem_codeLines_iff _ _).mpr (e ▸ hl)))

theorem okCode_gap0 (c : CodeLine) (ok : (OkCode O) c) :
    ∀ c', gap0 (.code c) = .code c' → (OkCode O) c' := by
  intro c' h
  simp only [gap0, Line.code.injEq] at h
  subst h
  cases hh : c.hints with
  | nil => exact ⟨ok.nonl, ok.nom, ok.notrail, by simp, by simp⟩
  | cons h1 t =>
    refine ⟨ok.nonl, ok.nom, ok.notrail, fun _ => ok.hinted (by simp [hh]), fun h hm => ?_⟩
    simp only [List.mem_cons] at hm
    rcases hm with rfl | hm
    · exact ok.clean h1 (by simp [hh])
    · exact ok.clean h (by simp [hh, hm])

theorem gap0_ok (d : Decorated) (hok : (LinesOk O) d) :
    (∀ c ∈ codeLines (d.map gap0), (OkCode O) c) ∧ ∀ L ∈ wholeLabels (d.map gap0), (Clean O) L := by
  constructor
  · intro c' hc'
    obtain ⟨l, hl, hg⟩ := List.mem_map.mp ((mem_codeLines_iff _ _).mp hc')
    cases l with
    | code c => exact okCode_gap0 c (hok.ok c ((mem_codeLines_iff _ _).mpr hl)) c' hg
    | isolated n L => cases hg
  · intro L hL
    obtain ⟨n, hn⟩ := (mem_wholeLabels_iff _ _).mp hL
    obtain ⟨l, hl, hg⟩ := List.mem_map.mp hn
    cases l with
    | code c => cases hg
    | isolated n' L' => cases hg; exact hok.whole L ((mem_wholeLabels_iff _ _).mpr ⟨_, hl⟩)

theorem renderLineS_noNL (d : List (Line × MarkerStyle)) (ok : ∀ c ∈ codeLines (d.map Prod.fst), (OkCode O) c)
    (hw : ∀ L ∈ wholeLabels (d.map Prod.fst), (Clean O) L) : ∀ l ∈ d.map renderLineS, '\n' ∉ l := by
  refine List.forall_mem_map.mpr fun p hp => ?_
  obtain ⟨l, ms⟩ := p
  have hl : l ∈ d.map Prod.fst := List.mem_map_of_mem (f := Prod.fst) hp
  have hmk : '\n' ∉ renderMarker ms := by
    simp only [renderMarker, List.mem_cons, List.mem_append, List.mem_map, List.mem_range, not_or]
    refine ⟨by decide, by simp [List.mem_replicate], ?_, by simp [List.mem_replicate], by decide⟩
    rintro ⟨k, hk, he⟩
    have := spellAt_isAlpha ms.caps k hk
    rw [he] at this; cases this
  cases l with
  | code c =>
    have ok := ok c ((mem_codeLines_iff _ c).mpr hl)
    simp only [renderLineS]
    split
    · exact ok.nonl
    · simp only [List.mem_append, not_or]
      refine ⟨ok.nonl, by simp [List.mem_replicate], hmk, by simp [List.mem_replicate], fun hm => ?_⟩
      exact renderHints_noNL _ ok.clean ((List.drop_sublist 1 _).subset hm)
  | isolated n L =>
    simp only [renderLineS, List.mem_append, not_or]
    exact ⟨by simp [List.mem_replicate], hmk, by simp [List.mem_replicate],
      (hw L ((mem_wholeLabels_iff _ L).mpr ⟨n, hl⟩)).noNL⟩

theorem prepare_decorateS (d : List (Line × MarkerStyle)) (hok : (LinesOk O) (d.map Prod.fst))
    (hne : codeLines (trimmed d) ≠ []) :
    (prepare O) (decorateS d) = decorate (trimmed d) := by
  have hdne : d ≠ [] := by
    intro e; subst e; exact hne rfl
  have hsplit : splitNL (decorateS d) = d.map renderLineS :=
    splitNL_joinNL _ (by simpa using hdne) (renderLineS_noNL d hok.ok hok.whole)
  have hnorm : (d.map renderLineS).map (normLine O) = (d.map fun p => gap0 p.1).map renderLine := by
    rw [List.map_map, List.map_map]
    apply List.map_congr_left
    intro ⟨l0, ms⟩ hp
    exact normLine_renderLineS l0 ms (hok.loose l0 (List.mem_map_of_mem (f := Prod.fst) hp))
  obtain ⟨hok0, hwl0⟩ : (∀ c ∈ codeLines (d.map fun p => gap0 p.1), (OkCode O) c) ∧
      ∀ L ∈ wholeLabels (d.map fun p => gap0 p.1), (Clean O) L := by
    have := gap0_ok _ hok
    rwa [List.map_map] at this
  unfold prepare
  rw [hsplit, hnorm, trimEnds_joinNL _ (tight_renderLine _ hok0 hwl0)
    (by
      rw [coreLines_map _ hok0]
      intro e
      exact hne (by rw [trimmed, List.map_eq_nil_iff.mp e]; rfl)),
    coreLines_map _ hok0]
  rfl

end Paroxy.Hints
