/-
The decomposition of `makeDb` and the facts about each of its components.
-/
import Paroxy.Proofs.MakeDbDict
import Paroxy.Proofs.MakeDbClosure
namespace Paroxy.DB
open Std

/-- The dictionary of direct importations of a collection. -/
def directD (progs : List Prog) : List (Name × List Name) := directImportations (labelled progs)

/-- `p` directly imports `q` (an `import_internally:…` label of `p` names `q`). -/
def Imports (progs : List Prog) (p q : Name) : Prop := Direct (directD progs) p q

def pathsOf (progs : List Prog) : List Name := progs.map (·.path)

theorem keys_labelled (progs : List Prog) : keys (labelled progs) = pathsOf progs := by
  simp [keys, labelled, pathsOf, List.map_map, Function.comp_def]

theorem directD_eq (progs : List Prog) :
    directD progs = progs.map fun p => (p.path, directOf (pathsOf progs) (labelsOf (internalOf progs) p)) := by
  simp only [directD, directImportations, labelled, pathsOf, List.map_map, Function.comp_def]

theorem keys_directD (progs : List Prog) : keys (directD progs) = pathsOf progs := by
  simp [directD_eq, keys, pathsOf, List.map_map, Function.comp_def]

theorem mem_directOf {paths : List Name} {ls : List Label} {q : Name} :
    q ∈ directOf paths ls ↔ q ∈ paths ∧ ∃ l ∈ ls, internalTarget? l.name = some q := by
  simp only [directOf, List.mem_filterMap]
  constructor
  · rintro ⟨l, hl, h⟩
    cases ht : internalTarget? l.name with
    | none => rw [ht] at h; cases h
    | some t =>
      rw [ht] at h
      simp only at h
      split at h
      · rename_i hq
        cases h
        exact ⟨hq, l, hl, ht⟩
      · cases h
  · rintro ⟨hq, l, hl, ht⟩
    exact ⟨l, hl, by rw [ht]; simp [hq]⟩

theorem direct_iff_inAt {d : List (Name × List Name)} {p q : Name} : Direct d p q ↔ InAt d p q := by
  unfold Direct succs InAt
  cases get? d p <;> simp

theorem imports_elim {progs : List Prog} {p q : Name} (h : Imports progs p q) :
    ∃ prog ∈ progs, prog.path = p ∧ q ∈ directOf (pathsOf progs) (labelsOf (internalOf progs) prog) := by
  obtain ⟨v, hg, hq⟩ := direct_iff_inAt.mp h
  have hmem := get?_mem hg
  rw [directD_eq] at hmem
  obtain ⟨prog, hprog, e⟩ := List.mem_map.mp hmem
  cases e
  exact ⟨prog, hprog, rfl, hq⟩

theorem imports_intro {progs : List Prog} (hn : (pathsOf progs).Nodup) {prog : Prog} (hprog : prog ∈ progs) {q : Name}
    (h : q ∈ directOf (pathsOf progs) (labelsOf (internalOf progs) prog)) : Imports progs prog.path q :=
  direct_iff_inAt.mpr ⟨_, by rw [directD_eq]; exact get?_map_of_mem (key := fun p : Prog => p.path) _ hn hprog, h⟩

theorem keys_completeImportations (d : List (Name × List Name)) :
    keys (completeImportations d) = keys d := by
  simp [keys, completeImportations, List.map_map, Function.comp_def]

theorem get?_completeImportations (d : List (Name × List Name)) (p : Name) :
    get? (completeImportations d) p = (get? d p).map fun _ => sortU (closureOf d p) :=
  get?_map_val d (fun k _ => sortU (closureOf d k)) p

theorem inAt_completeImportations {d : List (Name × List Name)} {p q : Name} :
    InAt (completeImportations d) p q ↔ p ∈ keys d ∧ Reach (Direct d) p q := by
  unfold InAt
  rw [get?_completeImportations, ← get?_isSome]
  cases get? d p <;> simp [mem_sortU, mem_closureOf]

theorem mem_completeImportations_sorted {d : List (Name × List Name)} :
    ∀ e ∈ completeImportations d, StrictSorted e.2 := by
  intro e he
  simp only [completeImportations, List.mem_map] at he
  obtain ⟨_, _, e'⟩ := he
  rw [← e']
  exact strictSorted_sortU _

theorem direct_key {d : List (Name × List Name)} {p q : Name} (h : Direct d p q) : p ∈ keys d :=
  let ⟨v, hg, _⟩ := direct_iff_inAt.mp h
  get?_isSome.mp ⟨v, hg⟩

theorem reach_key {d : List (Name × List Name)} {p q : Name} (h : Reach (Direct d) p q) :
    p ∈ keys d := by
  induction h with
  | single h => exact direct_key h
  | tail _ _ ih => exact ih

theorem reach_last {d : List (Name × List Name)} {p q : Name} (h : Reach (Direct d) p q) :
    ∃ b, b ∈ keys d ∧ Direct d b q := by
  cases h with
  | single h => exact ⟨p, direct_key h, h⟩
  | tail _ h' => exact ⟨_, direct_key h', h'⟩

theorem makeDb_ok {toTaxa : Name → List Label → List Taxon} {progs : List Prog} {db : Db}
    (h : makeDb toTaxa progs = .ok db) :
    db.importations = completeImportations (directD progs) ∧
    exportations (pathsOf progs) (completeImportations (directD progs)) = .ok db.exportations ∧
    db.labels = sortKeys (collectNew (labelOcc (labelled progs))) ∧
    db.taxa = sortKeys (collect (taxonOcc (taxaed toTaxa progs))) ∧
    db.programs =
      progs.foldl (fun d p => set d p.path (recordOf toTaxa (internalOf progs) p)) [] := by
  unfold makeDb at h
  simp only at h
  split at h
  · cases h
  · rename_i exps hexp
    simp only [Except.ok.injEq] at h
    subst h
    exact ⟨rfl, hexp, rfl, rfl, rfl⟩

theorem makeDb_error {toTaxa : Name → List Label → List Taxon} {progs : List Prog} {e : Err}
    (h : makeDb toTaxa progs = .error e) :
    exportations (pathsOf progs) (completeImportations (directD progs)) = .error e := by
  unfold makeDb at h
  simp only at h
  split at h
  · rename_i e' hexp
    simp only [Except.error.injEq] at h
    subst h
    exact hexp
  · cases h

theorem makeDb_isOk_of {toTaxa : Name → List Label → List Taxon} {progs : List Prog} {exps}
    (h : exportations (pathsOf progs) (completeImportations (directD progs)) = .ok exps) :
    ∃ db, makeDb toTaxa progs = .ok db := by
  cases hm : makeDb toTaxa progs with
  | ok db => exact ⟨db, rfl⟩
  | error e => rw [makeDb_error hm] at h; cases h

theorem programs_eq {toTaxa : Name → List Label → List Taxon} (progs : List Prog)
    (hn : (pathsOf progs).Nodup) :
    progs.foldl (fun d p => set d p.path (recordOf toTaxa (internalOf progs) p)) [] =
      progs.map fun p => (p.path, recordOf toTaxa (internalOf progs) p) := by
  have := foldl_set_nodup (fun p : Prog => p.path) (recordOf toTaxa (internalOf progs)) progs []
    (by simpa [keys, pathsOf] using hn)
  simpa using this

theorem get?_programs {toTaxa : Name → List Label → List Taxon} {progs : List Prog} {db : Db}
    (h : makeDb toTaxa progs = .ok db) (hn : (pathsOf progs).Nodup) {p : Prog} (hp : p ∈ progs) :
    get? db.programs p.path = some (recordOf toTaxa (internalOf progs) p) := by
  rw [(makeDb_ok h).2.2.2.2, programs_eq progs hn]
  exact get?_map_of_mem _ hn hp

/-- the spans of all the entries named `k`, in order -/
def spansNamed (ls : List Label) (k : Name) : List Span3 :=
  (ls.filter fun l => decide (l.name = k)).flatMap (·.spans)

theorem get?_labelBags (ls : List Label) (k : Name) :
    get? (labelBags ls) k = if k ∈ ls.map (·.name) then some (spansNamed ls k) else none := by
  have flat : ∀ (L : List (List Span3)) (v : List Span3), L.foldl (· ++ ·) v = v ++ L.flatten := by
    intro L
    induction L with
    | nil => intro v; simp
    | cons a L ih => intro v; simp [ih]
  have hne : (ls.filter fun l => decide (l.name = k)).map (·.spans) = [] ↔ k ∉ ls.map (·.name) := by
    simp only [List.map_eq_nil_iff, List.filter_eq_nil_iff, decide_eq_true_eq, List.mem_map, not_exists, not_and]
  rw [labelBags, Assoc.lookup_foldl (val := fun l : Label => l.spans) (c := (· ++ ·)) (b0 := [])
    fun d l k => (set_isUpdate _).get get?_isLookup d l.name k, flat]
  simp only [get?, hne, List.nil_append, spansNamed, List.flatMap, ite_not]

theorem labelBags_keys (ls : List Label) :
    (∀ k, k ∈ keys (labelBags ls) ↔ k ∈ ls.map (·.name)) ∧ (keys (labelBags ls)).Nodup :=
  ⟨fun k => (Assoc.mem_keys_foldl (fun d l => (set_isUpdate _).mem_keys d l.name) ls [] k).trans (by simp),
    List.foldlRecOn (motive := fun d => (keys d).Nodup) ls _ List.nodup_nil
      fun _ h l _ => (set_isUpdate _).nodup_keys h l.name⟩

theorem keys_preparedLabels (ls : List Label) : keys (preparedLabels ls) = keys (labelBags ls) := by
  simp [keys, preparedLabels, List.map_map, Function.comp_def]

/-- **`prepared_labels`**, whatever the names: the keys are the label names,
each once, and the value at a name is the sorted distinct spans of ALL the entries of that name. -/
theorem preparedLabels_props (ls : List Label) :
    (∀ e ∈ preparedLabels ls, e.1 ∈ ls.map (·.name) ∧ e.2 = preparedSpans (spansNamed ls e.1)) ∧
    (∀ k, k ∈ keys (preparedLabels ls) ↔ k ∈ ls.map (·.name)) ∧
    (keys (preparedLabels ls)).Nodup := by
  obtain ⟨hk, hn⟩ := labelBags_keys ls
  refine ⟨?_, ?_, ?_⟩
  · intro e he
    simp only [preparedLabels, List.mem_map] at he
    obtain ⟨b, hb, rfl⟩ := he
    have hg := get?_of_mem_nodup hn (show (b.1, b.2) ∈ labelBags ls from hb)
    rw [get?_labelBags] at hg
    split at hg
    · rename_i hmem
      simp only [Option.some.injEq] at hg
      exact ⟨hmem, by rw [← hg]⟩
    · cases hg
  · intro k; rw [keys_preparedLabels]; exact hk k
  · rw [keys_preparedLabels]; exact hn

theorem preparedTaxa_props (ts : List Taxon) :
    (∀ e ∈ preparedTaxa ts, ∃ t ∈ ts, t.name = e.1 ∧ e.2 = preparedSpans t.spans) ∧
    (∀ k, k ∈ keys (preparedTaxa ts) ↔ k ∈ ts.map (·.name)) ∧
    (keys (preparedTaxa ts)).Nodup :=
  ⟨List.foldlRecOn (motive := fun d => ∀ e ∈ d, ∃ t ∈ ts, t.name = e.1 ∧ e.2 = preparedSpans t.spans) ts _
      (fun _ h => absurd h List.not_mem_nil)
      fun _ ih t ht e he => (mem_set he).elim (ih e) fun h => ⟨t, ht, h ▸ rfl, h ▸ rfl⟩,
    fun k => (Assoc.mem_keys_foldl (fun d t => (set_isUpdate _).mem_keys d t.name) ts [] k).trans
      (or_iff_right List.not_mem_nil),
    List.foldlRecOn (motive := fun d => (keys d).Nodup) ts _ List.nodup_nil
      fun _ h t _ => (set_isUpdate _).nodup_keys h t.name⟩

/-- Every label name is a key, with the sorted distinct spans of all the entries of that name — whether
or not a name occurs several times in the parser's result. -/
theorem get?_preparedLabels (ls : List Label) {l : Label} (hl : l ∈ ls) :
    get? (preparedLabels ls) l.name = some (preparedSpans (spansNamed ls l.name)) := by
  unfold preparedLabels
  rw [get?_map_val _ fun _ => preparedSpans, get?_labelBags]
  have : l.name ∈ ls.map (·.name) := List.mem_map.mpr ⟨l, hl, rfl⟩
  simp [this]

theorem get?_preparedTaxa {ts : List Taxon} (hn : (ts.map (·.name)).Nodup) {t : Taxon}
    (ht : t ∈ ts) : get? (preparedTaxa ts) t.name = some (preparedSpans t.spans) := by
  have := foldl_set_nodup (fun l : Taxon => l.name) (fun l : Taxon => preparedSpans l.spans) ts []
    (by simpa [keys] using hn)
  unfold preparedTaxa
  rw [this]
  exact get?_map_of_mem _ hn ht

theorem mem_occOf {occ : List (Name × Name)} {k p : Name} : p ∈ occOf occ k ↔ (k, p) ∈ occ := by
  unfold occOf
  simp only [List.mem_map, List.mem_filter, decide_eq_true_eq]
  constructor
  · rintro ⟨⟨a, b⟩, ⟨hm, hk⟩, hp⟩
    simp only at hk hp
    rw [← hk, ← hp]; exact hm
  · intro h
    exact ⟨(k, p), ⟨h, rfl⟩, rfl⟩

theorem mem_flatMap_occ {α : Type} (name : α → Name) {xs : List (Name × List α)} {k p : Name} :
    (k, p) ∈ (xs.flatMap fun e => e.2.map fun l => (name l, e.1)) ↔ ∃ e ∈ xs, e.1 = p ∧ k ∈ e.2.map name := by
  simp only [List.mem_flatMap, List.mem_map, Prod.mk.injEq]
  exact ⟨fun ⟨e, he, l, hl, hk, hp⟩ => ⟨e, he, hp, l, hl, hk⟩, fun ⟨e, he, hp, l, hl, hk⟩ => ⟨e, he, l, hl, hk, hp⟩⟩

theorem mem_labelOcc {lab : List (Name × List Label)} {k p : Name} :
    (k, p) ∈ labelOcc lab ↔ ∃ e ∈ lab, e.1 = p ∧ k ∈ e.2.map (·.name) :=
  mem_flatMap_occ Label.name

theorem mem_taxonOcc {tax : List (Name × List Taxon)} {k p : Name} :
    (k, p) ∈ taxonOcc tax ↔ ∃ e ∈ tax, e.1 = p ∧ k ∈ e.2.map (·.name) :=
  mem_flatMap_occ Taxon.name

/-- An index whose value at `k` is a rearrangement `f` of the occurrences of `k` (absent when there is none) holds
`p` at `k` exactly when `(k, p)` occurs. -/
theorem inAt_of_get?_occ {d : List (Name × List Name)} {occ : List (Name × Name)} {f : List Name → List Name}
    (hf : ∀ l x, x ∈ f l ↔ x ∈ l)
    (hg : ∀ k, get? d k = if occOf occ k = [] then none else some (f (occOf occ k))) (k p : Name) :
    InAt d k p ↔ (k, p) ∈ occ := by
  unfold InAt
  rw [hg, ← mem_occOf]
  constructor
  · rintro ⟨l, hl, hp⟩
    split at hl
    · cases hl
    · cases hl; exact (hf _ _).mp hp
  · intro hp
    exact ⟨_, if_neg (List.ne_nil_of_mem hp), (hf _ _).mpr hp⟩

theorem index_get? (occ : List (Name × Name)) (k : Name) :
    get? (sortKeys (collect occ)) k = if occOf occ k = [] then none else some (occOf occ k) := by
  rw [(sortKeys_props _ (nodup_keys_collect occ)).2.1, get?_collect]

theorem index_inAt (occ : List (Name × Name)) (k p : Name) :
    InAt (sortKeys (collect occ)) k p ↔ (k, p) ∈ occ :=
  inAt_of_get?_occ (f := id) (fun _ _ => Iff.rfl) (index_get? occ) k p

theorem indexNew_get? (occ : List (Name × Name)) (k : Name) :
    get? (sortKeys (collectNew occ)) k =
      if occOf occ k = [] then none else some (dedupAdj (occOf occ k)) := by
  rw [(sortKeys_props _ (nodup_keys_collectNew occ)).2.1, get?_collectNew]

theorem indexNew_inAt (occ : List (Name × Name)) (k p : Name) :
    InAt (sortKeys (collectNew occ)) k p ↔ (k, p) ∈ occ :=
  inAt_of_get?_occ mem_dedupAdj (indexNew_get? occ) k p

/-- **Each path at most once.** With distinct program paths, the list of a label name in the index is
duplicate-free: the occurrences come grouped by program, and a group adds its path once. -/
theorem nodup_foldl_addNew_labelOcc (lab : List (Name × List Label)) (k : Name) (acc : List Name)
    (hn : (keys lab).Nodup) (hacc : acc.Nodup) (hdis : ∀ a ∈ acc, a ∉ keys lab) :
    ((occOf (labelOcc lab) k).foldl addNew acc).Nodup := by
  induction lab generalizing acc with
  | nil => simpa [labelOcc, occOf] using hacc
  | cons e t ih =>
    have hocc : occOf (labelOcc (e :: t)) k =
        occOf (e.2.map fun l => (l.name, e.1)) k ++ occOf (labelOcc t) k := by
      simp [labelOcc, occOf]
    have hblock : ∀ x ∈ occOf (e.2.map fun l => (l.name, e.1)) k, x = e.1 := by
      intro x hx
      simp only [occOf, List.mem_map, List.mem_filter, decide_eq_true_eq] at hx
      obtain ⟨o, ⟨⟨l, -, rfl⟩, -⟩, rfl⟩ := hx
      rfl
    rw [hocc, List.foldl_append, foldl_addNew_const _ _ e.1 hblock]
    simp only [keys, List.map_cons, List.nodup_cons] at hn
    have he : e.1 ∉ acc := fun h => hdis e.1 h List.mem_cons_self
    -- either way the accumulator stays duplicate-free, within `acc` and `e.1`, hence apart from the keys of `t`
    have next : ∀ acc' : List Name, acc'.Nodup → (∀ a ∈ acc', a ∈ acc ∨ a = e.1) →
        ((occOf (labelOcc t) k).foldl addNew acc').Nodup := fun acc' hn' hsub =>
      ih acc' hn.2 hn' fun a ha hk => (hsub a ha).elim (fun h => hdis a h (List.mem_cons_of_mem _ hk))
        fun h => hn.1 (h ▸ hk)
    split
    · exact next acc hacc fun _ => Or.inl
    · have hadd : addNew acc e.1 = acc ++ [e.1] :=
        if_neg fun hl => he (List.mem_of_getLast? hl)
      rw [hadd]
      exact next _ (Assoc.nodup_snoc hacc he) fun a ha =>
        (List.mem_append.mp ha).imp_right List.mem_singleton.mp

end Paroxy.DB
