/- Facts about the specification's key set, independent of the Python table. -/
import Paroxy.Spec.CompareSpans
import Paroxy.Proofs.Dict
namespace Paroxy.Spec
open Paroxy

theorem Letter.ofCode_code (l : Letter) : Letter.ofCode l.code = some l := by cases l <;> rfl
theorem KOp.ofCode_code (o : KOp) : KOp.ofCode o.code = some o := by cases o <;> rfl

theorem Letter.ofCode_some {n : Nat} {l : Letter} (h : Letter.ofCode n = some l) : n = l.code := by
  unfold Letter.ofCode at h; unfold Letter.code; grind

theorem KOp.ofCode_some {n : Nat} {o : KOp} (h : KOp.ofCode n = some o) : n = o.code := by
  unfold KOp.ofCode at h; unfold KOp.code; grind

theorem parseKey_codes (k : Key) : parseKey k.codes = some k := by
  simp [parseKey, Key.codes, Letter.ofCode_code, KOp.ofCode_code]

theorem parseKey_some {c : Codes} {k : Key} (h : parseKey c = some k) : c = k.codes := by
  unfold parseKey at h
  split at h
  · simp only [bind, pure, Option.bind_eq_some_iff] at h
    obtain ⟨l1, h1, l2, h2, l3, h3, l4, h4, o1, h5, o2, h6, o3, h7, hk⟩ := h
    cases hk
    simp [Key.codes, Letter.ofCode_some h1, Letter.ofCode_some h2, Letter.ofCode_some h3,
      Letter.ofCode_some h4, KOp.ofCode_some h5, KOp.ofCode_some h6, KOp.ofCode_some h7]
  · cases h

theorem Key.codes_injective {k k' : Key} (h : k.codes = k'.codes) : k = k' := by
  have := parseKey_codes k
  rw [h, parseKey_codes] at this
  exact (Option.some.inj this).symm

theorem mem_allKeys (k : Key) : k ∈ allKeys ↔ k.balanced = true := by
  have hk : ∀ o : KOp, o ∈ kops := fun o => by cases o <;> simp [kops]
  cases k with | mk l1 l2 l3 l4 o1 o2 o3 =>
  simp only [allKeys, List.mem_flatMap, List.mem_map, Key.balanced, decide_eq_true_eq]
  constructor
  · rintro ⟨⟨a, b, c, d⟩, hm, p1, _, p2, _, p3, _, he⟩
    cases he; exact hm
  · intro h
    exact ⟨(l1, l2, l3, l4), h, o1, hk _, o2, hk _, o3, hk _, rfl⟩

/-- Position of a key in `allKeys`. -/
def Key.index (k : Key) : Nat :=
  let a := match k.l1, k.l2, k.l3, k.l4 with
    | .x,.x,.y,.y => 0 | .x,.y,.x,.y => 1 | .x,.y,.y,.x => 2 | .y,.x,.x,.y => 3
    | .y,.x,.y,.x => 4 | .y,.y,.x,.x => 5 | _,_,_,_ => 6
  let o : KOp → Nat := fun | .lt => 0 | .le => 1 | .eq => 2
  a * 27 + o k.o1 * 9 + o k.o2 * 3 + o k.o3

theorem allKeys_index : allKeys.map Key.index = List.range 162 := by decide +kernel

/-- `Key.index` is the position in `allKeys`, hence injective on it. -/
theorem allKeys_index_inj {k k' : Key} (hk : k ∈ allKeys) (hk' : k' ∈ allKeys) (h : k.index = k'.index) :
    k = k' := by
  have e : ∀ (n : Nat) (k : Key), allKeys[n]? = some k → k.index = n := by
    intro n k hn
    have := congrArg (·[n]?) allKeys_index
    simp only [List.getElem?_map, hn, Option.map_some] at this
    obtain ⟨_, h3⟩ := List.getElem?_eq_some_iff.mp this.symm
    simpa using h3.symm
  obtain ⟨i, hi⟩ := List.mem_iff_getElem?.mp hk
  obtain ⟨j, hj⟩ := List.mem_iff_getElem?.mp hk'
  have : i = j := by rw [← e i k hi, ← e j k' hj, h]
  subst this
  rw [hi] at hj
  exact Option.some.inj hj

theorem allKeys_length : allKeys.length = 162 := by
  rw [← List.length_map Key.index, allKeys_index, List.length_range]

/-- Distinct positions, hence distinct keys, hence distinct codes. -/
theorem allKeys_codes_nodup : (allKeys.map Key.codes).Nodup := by
  have h : (allKeys.map Key.index).Nodup := allKeys_index ▸ List.nodup_range
  rw [List.nodup_iff_pairwise_ne, List.pairwise_map] at h ⊢
  exact h.imp fun hne hc => hne (congrArg Key.index (Key.codes_injective hc))

theorem aliases_mem_allKeys {n : Codes} {k : Key} (h : (n, k) ∈ aliases) : k ∈ allKeys :=
  have hb : aliases.all (fun p => p.2.balanced) = true := by decide +kernel
  (mem_allKeys k).mpr (List.all_eq_true.mp hb _ h)

theorem Key.swap_holds (k : Key) (x y : Span) : k.swap.Holds x y ↔ k.Holds y x := by
  cases k with | mk l1 l2 l3 l4 o1 o2 o3 =>
  cases l1 <;> cases l2 <;> cases l3 <;> cases l4 <;> rfl

/-- The keys of a relation and of its converse spell mirror images. A proper converse is entered in
`manualAllen` with the swapped key of the direct name; `equals`, its own converse, is symmetric. -/
theorem converses_keys {r r' : Codes} (h : (r, r') ∈ converses) :
    ∃ k k', (r, k) ∈ aliases ∧ (r', k') ∈ aliases ∧ ∀ x y : Span, k.Holds x y ↔ k'.Holds y x := by
  have h : (r, r') ∈ (codesOf "equals", codesOf "equals") :: converses.drop 1 := h
  have hd : ∀ {n k}, (n, k) ∈ manualDirect → (n, k) ∈ aliases := fun hm =>
    List.mem_append_left _ (List.mem_append_left _ hm)
  rcases List.mem_cons.mp h with he | h
  · cases he
    refine ⟨_, _, hd (.head _), hd (.head _), fun x y => ?_⟩
    show (x.1 = y.1 ∧ y.1 ≤ x.2 ∧ x.2 = y.2) ↔ (y.1 = x.1 ∧ x.1 ≤ y.2 ∧ y.2 = x.2)
    omega
  · have hs : (converses.drop 1).all (fun p => (dictGet? manualDirect p.1).isSome) = true := by
      decide +kernel
    obtain ⟨k, hk⟩ := Option.isSome_iff_exists.mp (List.all_eq_true.mp hs _ h)
    refine ⟨k, k.swap, hd (dictGet?_mem hk), ?_, fun x y => (k.swap_holds y x).symm⟩
    refine List.mem_append_left _ (List.mem_append_right _ (List.mem_filterMap.mpr ⟨_, h, ?_⟩))
    simp only [hk, Option.map_some]

end Paroxy.Spec
