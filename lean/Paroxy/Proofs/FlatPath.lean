/-
Decimal numerals and the `_pos` path code built from them (prefix-free because every component ends with `-`);
the induction principle for trees and the descent of a Bool predicate to sub-values.
-/
import Paroxy.Spec.FlatAst
import Paroxy.Proofs.FlatStr
namespace Paroxy.Flat

theorem dec_ne_nil (n : Nat) : dec n ≠ [] := Nat.toDigits_ne_nil

theorem isDigit_of_mem_dec {n : Nat} {c : Char} (h : c ∈ dec n) : c.isDigit = true :=
  Nat.isDigit_of_mem_toDigits (by decide) (by decide) h

theorem not_mem_dec {c : Char} (hc : c.isDigit = false) (n : Nat) : c ∉ dec n := fun h => by
  rw [isDigit_of_mem_dec h] at hc; cases hc

theorem slash_not_mem_dec (n : Nat) : '/' ∉ dec n := not_mem_dec rfl n
theorem eq_not_mem_dec (n : Nat) : '=' ∉ dec n := not_mem_dec rfl n
theorem colon_not_mem_dec (n : Nat) : ':' ∉ dec n := not_mem_dec rfl n

theorem isDigitC_of_isDigit {c : Char} (h : c.isDigit = true) : isDigitC c = true := by
  simp only [Char.isDigit, Bool.and_eq_true, decide_eq_true_eq] at h
  simp only [isDigitC, Bool.and_eq_true, decide_eq_true_eq]
  exact ⟨Char.le_def.mpr h.1, Char.le_def.mpr h.2⟩

theorem all_isDigitC_dec (n : Nat) : (dec n).all isDigitC = true := by
  rw [List.all_eq_true]; intro c hc; exact isDigitC_of_isDigit (isDigit_of_mem_dec hc)

theorem dec_injective {a b : Nat} (h : dec a = dec b) : a = b := by
  have ha := @Nat.ofDigitChars_ten_toDigits a
  have hb := @Nat.ofDigitChars_ten_toDigits b
  unfold dec at h
  rw [h] at ha
  exact ha.symm.trans hb

theorem sep_prefix {c : Char} (u v A B : Str) (hu : c ∉ u) (hv : c ∉ v) :
    (u ++ c :: A) <+: (v ++ c :: B) ↔ u = v ∧ A <+: B := by
  constructor
  · rintro ⟨t, h⟩
    rw [List.append_assoc, List.cons_append] at h
    rcases split_first hv h with ⟨h1, h2⟩ | ⟨E, h1, -⟩
    · exact ⟨h1, t, h2⟩
    · exact absurd (h1 ▸ List.mem_append_right v List.mem_cons_self) hu
  · rintro ⟨rfl, t, rfl⟩
    exact ⟨t, by rw [List.append_assoc, List.cons_append]⟩

/-- The `_pos` path code is prefix-free: string prefix of encodings = prefix of addresses. -/
theorem encPath_prefix_iff : ∀ (p q : List Nat), encPath p <+: encPath q ↔ p <+: q
  | [], q => by simp [encPath]
  | i :: p, [] => by
    simp only [encPath, List.prefix_nil]
    constructor
    · intro h
      have : dec i = [] := (List.append_eq_nil_iff.mp h).1
      exact absurd this (dec_ne_nil i)
    · intro h; cases h
  | i :: p, j :: q => by
    simp only [encPath, List.cons_prefix_cons]
    rw [sep_prefix _ _ _ _ (not_mem_dec rfl i) (not_mem_dec rfl j), encPath_prefix_iff p q]
    constructor
    · rintro ⟨h1, h2⟩; exact ⟨dec_injective h1, h2⟩
    · rintro ⟨h1, h2⟩; exact ⟨by rw [h1], h2⟩

theorem not_mem_encPath {c : Char} (hd : c.isDigit = false) (hc : c ≠ '-') : ∀ p : List Nat, c ∉ encPath p
  | [] => List.not_mem_nil
  | i :: p => fun h => by
    rcases List.mem_append.mp h with h | h
    · exact not_mem_dec hd i h
    · rcases List.mem_cons.mp h with h | h
      · exact hc h
      · exact not_mem_encPath hd hc p h

theorem encPath_append (p q : List Nat) : encPath (p ++ q) = encPath p ++ encPath q := by
  induction p with
  | nil => rfl
  | cons i p ih => simp [encPath, ih]

theorem encPath_injective {p q : List Nat} (h : encPath p = encPath q) : p = q := by
  have h1 : p <+: q := (encPath_prefix_iff p q).mp (h ▸ List.prefix_rfl)
  have h2 : q <+: p := (encPath_prefix_iff q p).mp (h ▸ List.prefix_rfl)
  exact List.IsPrefix.eq_of_length_le h1 h2.length_le

/-- The numeral of a one-digit number is one character, so `path[2:]` removes exactly the first component and its
hyphen. -/
theorem posPath_cons {k : Nat} (hk : k < 10) (p : List Nat) : posPath (k :: p) = encPath p := by
  show ((dec k) ++ '-' :: encPath p).drop 2 = encPath p
  rw [dec, Nat.toDigits_of_lt_base hk]; rfl

/-- Structural induction on a tree together with its field lists and item lists, for the three statements that a
fact about the mutually recursive functions on `Val` consists of. -/
theorem Val.induction {P : Val → Prop} {PF : List (Str × Val) → Prop} {PI : List Val → Prop}
    (node : ∀ ty e r ln fs, PF fs → P (.node ty e r ln fs))
    (list : ∀ q xs, PI xs → P (.list q xs))
    (scalar : ∀ r k, P (.scalar r k))
    (fnil : PF []) (fcons : ∀ n v rest, P v → PF rest → PF ((n, v) :: rest))
    (inil : PI []) (icons : ∀ v rest, P v → PI rest → PI (v :: rest)) :
    (∀ v, P v) ∧ (∀ fs, PF fs) ∧ (∀ xs, PI xs) := by
  have hc : ∀ (p : Str × Val) rest, P p.2 → PF rest → PF (p :: rest) := fun p => fcons p.1 p.2
  exact ⟨Val.rec (motive_4 := fun p => P p.2) node list scalar fnil hc inil icons (fun _ _ h => h),
    Val.rec_1 (motive_4 := fun p => P p.2) node list scalar fnil hc inil icons (fun _ _ h => h),
    Val.rec_2 (motive_4 := fun p => P p.2) node list scalar fnil hc inil icons (fun _ _ h => h)⟩

theorem Val.at?_append (v : Val) : ∀ (p q : List Nat), v.at? (p ++ q) = (v.at? p).bind (·.at? q)
  | [], q => by simp [Val.at?]
  | i :: p, q => by
    simp only [List.cons_append, Val.at?]
    cases h : v.child? i with
    | none => simp
    | some w => simp [Val.at?_append w p q]

theorem forall_of_and_cons {α : Type} {F : List α → Bool} {g : α → Bool}
    (hc : ∀ a l, F (a :: l) = (g a && F l)) : ∀ l, F l = true → ∀ a ∈ l, g a = true
  | [], _, _, hm => nomatch hm
  | a :: l, h, b, hm => by
    rw [hc, Bool.and_eq_true] at h
    exact (List.mem_cons.mp hm).elim (· ▸ h.1) (forall_of_and_cons hc l h.2 b)

/-- A Bool predicate on trees computed as a conjunction over the fields (each through `g`) and over the items holds
of every sub-value of a tree of which it holds. -/
theorem At.descendB {p : Val → Bool} {pf : List (Str × Val) → Bool} {pi : List Val → Bool} {g : Str × Val → Bool}
    (node : ∀ {ty e r ln fs}, p (.node ty e r ln fs) = true → pf fs = true)
    (fcons : ∀ f fs, pf (f :: fs) = (g f && pf fs)) (field : ∀ {f}, g f = true → p f.2 = true)
    (list : ∀ {q xs}, p (.list q xs) = true → pi xs = true) (icons : ∀ x xs, pi (x :: xs) = (p x && pi xs))
    {v w : Val} {q : List Nat} {ns : List Str} (h : At v q ns w) : p v = true → p w = true := by
  induction h with
  | here => exact id
  | field hk _ ih =>
    exact fun hv => ih (field (forall_of_and_cons fcons _ (node hv) _ (List.mem_of_getElem? hk)))
  | item hk _ ih =>
    exact fun hv => ih (forall_of_and_cons icons _ (list hv) _ (List.mem_of_getElem? hk))

/-- Hypothesis on the hash function: its texts contain no `=`. -/
def HashNoEq (h : Str → Str) : Prop := ∀ r, '=' ∉ h r

theorem encNames_append (a b : List Str) : encNames (a ++ b) = encNames a ++ encNames b := by
  induction a with
  | nil => rfl
  | cons n a ih => simp [encNames, ih]

theorem subPre_encNames (names : List Str) (n : Str) :
    subPre (encNames names) n = encNames (names ++ [n]) := by
  simp [subPre, encNames_append, encNames]

theorem subPath_encPath (addr : List Nat) (i : Nat) :
    subPath (encPath addr) i = encPath (addr ++ [i]) := by
  simp [subPath, encPath_append, encPath]

end Paroxy.Flat
