/-
The dump of a tree is made of `key=value` lines, a few per entry of its pre-order enumeration (`EntryLine`).
What the last-POS pattern of the `node` matcher finds on such a line can only be the value of a position line
(`lastPos_entry_line`). Then `pos_to_span` / `get_bindings` on such captures.
-/
import Paroxy.Proofs.NodeFeature
import Paroxy.Proofs.FlatTweaks
import Paroxy.Model.WholeSpan
namespace Paroxy.Flat

theorem findLastPos_some {g p : Str} : ∀ {L : List Str}, findLastPos g L = some p →
    ∃ l L', l ∈ L ∧ lastPos? g l L' = some p
  | [], h => by simp [findLastPos] at h
  | l :: rest, h => by
    simp only [findLastPos] at h
    split at h
    · cases hr : findLastPos g rest with
      | some q =>
        rw [hr] at h
        simp only [Option.some.injEq] at h
        obtain ⟨l', L', hl, hp⟩ := findLastPos_some hr
        exact ⟨l', L', List.mem_cons_of_mem _ hl, h ▸ hp⟩
      | none =>
        rw [hr] at h
        exact ⟨l, rest, List.mem_cons_self, h⟩
    · cases h

theorem lastPos_none_of_not_prefix {g l : Str} (L' : List Str) (h : ¬ (g ++ ['/']) <+: l) :
    lastPos? g l L' = none := by
  unfold lastPos?
  rw [if_neg (fun hb => h (List.isPrefixOf_iff_prefix.mp hb))]

/-- The last-POS pattern on a `key=value` line under `g/` (no `=` in the key, no newline in the value):
the lines that follow play no part. -/
theorem lastPos_keyval_eq {g K V : Str} (L' : List Str) (hK : '=' ∉ K) (hV : '\n' ∉ V) :
    lastPos? g ((g ++ '/' :: K) ++ '=' :: V) L' =
      if (cs!"/_pos").isSuffixOf K && (cs!"/_pos").length < K.length && !V.isEmpty then some V else none := by
  -- what `joinLines` puts after the line is empty or starts with a newline
  obtain ⟨W, hj, hW⟩ : ∃ W, joinLines ((K ++ '=' :: V) :: L') = K ++ '=' :: V ++ W ∧
      W.takeWhile (· != '\n') = [] := by
    cases L' with
    | nil => exact ⟨[], (List.append_nil _).symm, rfl⟩
    | cons x xs => exact ⟨'\n' :: joinLines (x :: xs), rfl, by simp⟩
  have hl : (g ++ '/' :: K) ++ '=' :: V = (g ++ ['/']) ++ (K ++ '=' :: V) := by simp
  have hd : ((g ++ ['/']) ++ (K ++ '=' :: V)).drop (g.length + 1) = K ++ '=' :: V := List.drop_left' (by simp)
  have ht : K ++ '=' :: V ++ W = K ++ '=' :: (V ++ W) := by simp
  unfold lastPos?
  rw [hl, if_pos (List.isPrefixOf_iff_prefix.mpr ⟨_, rfl⟩), hd, hj, ht]
  simp only [takeWhile_ne_append '=' K ('=' :: (V ++ W)) hK (by simp), List.drop_left,
    takeWhile_ne_append '\n' V W hV hW]

theorem lastPos_keyval {g K V p : Str} (L' : List Str) (hg : '=' ∉ g) (hK : '=' ∉ K) (hV : '\n' ∉ V)
    (h : lastPos? g (K ++ '=' :: V) L' = some p) : (cs!"/_pos") <:+ K ∧ p = V := by
  by_cases hp : (g ++ ['/']) <+: K ++ '=' :: V
  · -- the prefix `g/` has no `=`: it ends within the key
    obtain ⟨K2, hK2⟩ : g ++ ['/'] <+: K := by
      rcases Nat.lt_or_ge K.length (g ++ ['/']).length with hlt | hge
      · have : K ++ ['='] <+: g ++ ['/'] :=
          List.prefix_of_prefix_length_le ⟨V, by simp⟩ hp (by simp at hlt ⊢; omega)
        exact absurd (this.subset (show '=' ∈ K ++ ['='] by simp)) (by simpa using hg)
      · exact List.prefix_of_prefix_length_le hp (List.prefix_append _ _) hge
    have hK2' : '=' ∉ K2 := fun e => hK (by rw [← hK2]; simp [e])
    have hl : K ++ '=' :: V = (g ++ '/' :: K2) ++ '=' :: V := by rw [← hK2]; simp
    rw [hl, lastPos_keyval_eq L' hK2' hV] at h
    split at h
    · rename_i hc
      simp only [Bool.and_eq_true, List.isSuffixOf_iff_suffix] at hc
      obtain ⟨t, ht⟩ := hc.1.1
      exact ⟨⟨g ++ ['/'] ++ t, by rw [← hK2, ← ht]; simp⟩, (Option.some.inj h).symm⟩
    · cases h
  · rw [lastPos_none_of_not_prefix L' hp] at h; cases h

def HashNoNewline (h : Str → Str) : Prop := ∀ r, '\n' ∉ h r

/-- The kinds of line of an entry, each a `key=value` line: the literal that ends the key (after the name
path of the entry) and the value. -/
inductive EntryLine (h : Str → Str) (e : Entry) : Str → Str → Prop
  | type {ty isE r ln} : e.item = .node ty isE r ln → EntryLine h e cs!"/_type" ty
  | hash {ty r ln} : e.item = .node ty true r ln → EntryLine h e cs!"/_hash" (h r)
  | pos {ty isE r n} : e.item = .node ty isE r (some n) → EntryLine h e cs!"/_pos" (posText n e.addr)
  | length {n} : e.item = .list false n → EntryLine h e cs!"/_length" (dec n)
  | scalar {r} : e.item = .scalar r → EntryLine h e [] r

theorem mem_entry_lines {h : Str → Str} {e : Entry} {l : Str} (hl : l ∈ e.lines h) :
    ∃ lit V, EntryLine h e lit V ∧ l = (encNames e.names ++ lit) ++ '=' :: V := by
  obtain ⟨addr, names, item⟩ := e
  cases item with
  | node ty isE r ln =>
    simp only [Entry.lines, List.mem_cons, List.mem_append] at hl
    rcases hl with rfl | hl | hl
    · exact ⟨_, _, .type rfl, typeLine_keyval ..⟩
    · cases isE with
      | false => cases hl
      | true => rw [List.mem_singleton.mp hl]; exact ⟨_, _, .hash rfl, hashLine_keyval ..⟩
    · cases ln with
      | none => cases hl
      | some n => rw [List.mem_singleton.mp hl]; exact ⟨_, _, .pos rfl, posLine_eq ..⟩
  | list q n =>
    cases q with
    | true => cases hl
    | false => rw [List.mem_singleton.mp hl]; exact ⟨_, _, .length rfl, lengthLine_keyval ..⟩
  | scalar r => rw [List.mem_singleton.mp hl]; exact ⟨_, _, .scalar rfl, by simp [scalarLine]⟩

theorem Entry.ok_of_ok2 {e : Entry} (h : e.ok2 = true) : e.ok = true := (Bool.and_eq_true_iff.mp h).1

/-- A line of a well-formed entry from which the last-POS pattern succeeds is the position line of
that entry, and the capture is its position text. -/
theorem lastPos_entry_line (h : Str → Str) (hn : HashNoNewline h) (e : Entry)
    (hok : e.ok2 = true) {g l p : Str} (L' : List Str) (hg : '=' ∉ g) (hl : l ∈ e.lines h)
    (hp : lastPos? g l L' = some p) : ∃ ty isE r n, e.item = .node ty isE r (some n) ∧ p = posText n e.addr := by
  have hpre := Entry.ok_pre (Entry.ok_of_ok2 hok)
  obtain ⟨lit, V, hk, rfl⟩ := mem_entry_lines hl
  -- a key whose last literal is at least as long as `/_pos` and does not end with it refutes `hp`
  have marker : (cs!"/_pos").length ≤ lit.length → ¬ cs!"/_pos" <:+ lit → '=' ∉ lit → '\n' ∉ V → False :=
    fun hlen hne heq hV => hne (List.suffix_of_suffix_length_le
      (lastPos_keyval L' hg (not_mem_append_lit hpre heq) hV hp).1 (List.suffix_append _ _) hlen)
  cases hk with
  | type hi =>
    have htn : e.ok = true ∧ '\n' ∉ V := by simpa [Entry.ok2, hi] using hok
    exact (marker (by decide) (by decide) (by decide) htn.2).elim
  | hash hi => exact (marker (by decide) (by decide) (by decide) (hn _)).elim
  | length hi => exact (marker (by decide) (by decide) (by decide) (not_mem_dec rfl _)).elim
  | pos hi =>
    exact ⟨_, _, _, _, hi, (lastPos_keyval L' hg (not_mem_append_lit hpre (by decide))
      (not_mem_posText rfl (by decide) (by decide) _ _) hp).2⟩
  | scalar hi =>
    simp only [Entry.ok2, hi, Bool.and_eq_true, Bool.not_eq_true'] at hok
    have := (lastPos_keyval L' hg (by simpa using hpre) (by simpa using hok.2.1) hp).1
    rw [List.append_nil, ← List.isSuffixOf_iff_suffix, hok.2.2] at this
    cases this

theorem posToSpan_lines {pos : List Str} {s : SpanP} (h : posToSpan? pos = some s) :
    ∃ p ∈ pos, ∃ q ∈ pos, ∃ n1 x n2 y, parsePos? p = some (n1, x) ∧ parsePos? q = some (n2, y) ∧
      s.start = min n1 n2 ∧ s.stop = max n1 n2 := by
  unfold posToSpan? at h
  split at h
  · rename_i a z ha hz
    split at h
    · rename_i n1 x n2 y hpa hpz
      rw [← Option.some.inj h]
      exact ⟨a, List.mem_of_mem_head? (by simp [ha]), z, List.mem_of_getLast? hz, n1, x, n2, y, hpa, hpz, rfl, rfl⟩
    · cases h
  · cases h

theorem posToSpan_ordered {pos : List Str} {s : SpanP} (h : posToSpan? pos = some s) : s.start ≤ s.stop := by
  obtain ⟨_, _, _, _, n1, _, n2, _, _, _, hs, he⟩ := posToSpan_lines h
  rw [hs, he]; exact Nat.le_trans (Nat.min_le_left _ _) (Nat.le_max_left _ _)

/-- The two branches of `get_bindings` agree on a match of the `node` feature (a single SUFFIX): one
span, computed from all the captures. -/
theorem nodeBinding_eq (m : Str × List Str) :
    nodeBinding? m = (posToSpan? m.2).map (cs!"node:" ++ m.1, ·) := by
  unfold nodeBinding?
  split
  · rename_i p hp; rw [hp]
  · rfl

theorem nodeBinding_ordered {m : Str × List Str} {b : Str × SpanP} (hb : nodeBinding? m = some b) :
    b.2.start ≤ b.2.stop := by
  rw [nodeBinding_eq, Option.map_eq_some_iff] at hb
  obtain ⟨s, hp, rfl⟩ := hb
  exact posToSpan_ordered hp

theorem treeOk2_entries {t : Val} (hwf : treeOk2 t = true) :
    ∀ e ∈ entries [] [] t, e.ok2 = true ∧ e.typed (posTypes t).contains = true := by
  intro e he
  simpa using List.all_eq_true.mp hwf e he

theorem hashNoNewline_hashFn (t : Val) : HashNoNewline (hashFn t) :=
  fun _ => not_mem_hex4 (by decide) (by decide) _

end Paroxy.Flat
