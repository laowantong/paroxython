/-
What a successful `get_program` / `collect_hints` went through, whatever the text (`getProgramFrom_ok`,
`collectHints_ok`: the other Hints files and Props/C12 open a success with these), and, for C02, that the
spans `collect_hints` schedules are ordered line numbers of the text it was given (the centrifugated text).
-/
import Paroxy.Proofs.HintsRound
import Paroxy.Proofs.HintsMalformed
namespace Paroxy.Hints

variable {O : CharOracle}

theorem splitNL'_length (s : Str) : (splitNL' s).2.length = s.count '\n' := by
  fun_induction splitNL' s with
  | case1 => rfl
  | case2 t p ih => simp [ih, p]
  | case3 c t p hc ih => rw [List.count_cons_of_ne hc]; exact ih

theorem lineCount_eq (s : Str) : lineCount s = s.count '\n' + 1 := by
  simp [lineCount, splitNL, splitNL'_length]

theorem getProgramFrom_ok {text : Str} {p : Program} (h : (getProgramFrom O) text = .ok p) :
    ∃ c, (centrifugate O) text = .ok c ∧ (collectHints O) c = .ok (p.addition, p.deletion) ∧
      p.source = (removeHints O) c := by
  unfold getProgramFrom at h
  split at h
  · cases h
  · rename_i c hc
    split at h
    · cases h
    · rename_i a d hcol
      cases h
      exact ⟨c, hc, hcol, rfl⟩

theorem collectHints_ok {c : Str} {a d : Sched} (h : (collectHints O) c = .ok (a, d)) :
    ∃ st, (runToks O) {} ((numberedTokens O) 1 (splitNL c)) = .ok st ∧
      a = getResult st.add.result ∧ d = getResult st.del.result := by
  obtain ⟨st, hst, -, -, hr⟩ := collectToks_ok (toks := (numberedTokens O) 1 (splitNL c)) h
  exact ⟨st, hst, (Prod.mk.inj hr).1, (Prod.mk.inj hr).2⟩

/-- Everything one buffer has recorded so far lies within lines 1..cur, spans are ordered. -/
structure Buf.Within (b : Buf) (cur : Nat) : Prop where
  stack : ∀ e ∈ b.stack, 1 ≤ e.2 ∧ e.2 ≤ cur
  result : ∀ e ∈ b.result, 1 ≤ e.2.1 ∧ e.2.1 ≤ e.2.2 ∧ e.2.2 ≤ cur

theorem Buf.Within.mono {b : Buf} {i j : Nat} (h : b.Within i) (hij : i ≤ j) : b.Within j :=
  ⟨fun e he => ⟨(h.stack e he).1, Nat.le_trans (h.stack e he).2 hij⟩,
   fun e he => ⟨(h.result e he).1, (h.result e he).2.1, Nat.le_trans (h.result e he).2.2 hij⟩⟩

theorem Buf.Within.append {b : Buf} {i : Nat} (h : b.Within i) (hi : 1 ≤ i) (L : Str) : (b.append L i).Within i := by
  refine ⟨h.stack, fun e he => ?_⟩
  rcases List.mem_append.mp he with he | he
  · exact h.result e he
  · cases List.mem_singleton.mp he; exact ⟨hi, Nat.le_refl _, Nat.le_refl _⟩

theorem Buf.Within.open {b : Buf} {i : Nat} (h : b.Within i) (hi : 1 ≤ i) (L : Str) : (b.open L i).Within i := by
  refine ⟨fun e he => ?_, h.result⟩
  rcases List.mem_cons.mp he with rfl | he
  · exact ⟨hi, Nat.le_refl _⟩
  · exact h.stack e he

theorem pop_subset (L : Str) (stk : List (Str × Nat)) : ∀ e ∈ pop L stk, e ∈ stk := by
  induction stk with
  | nil => simp [pop]
  | cons p t ih =>
    obtain ⟨l, x⟩ := p
    intro e he
    simp only [pop] at he
    split at he
    · exact List.mem_cons_of_mem _ he
    · rcases List.mem_cons.mp he with rfl | he
      · simp
      · exact List.mem_cons_of_mem _ (ih e he)

theorem top_mem (L : Str) (stk : List (Str × Nat)) (x : Nat) (h : top L stk = some x) : (L, x) ∈ stk := by
  induction stk with
  | nil => simp [top] at h
  | cons p t ih =>
    obtain ⟨l, y⟩ := p
    simp only [top] at h
    split at h
    · rename_i hl; cases h; subst hl; simp
    · exact List.mem_cons_of_mem _ (ih h)

theorem Buf.Within.close {b : Buf} {i x : Nat} {L : Str} (h : b.Within i) (hx : top L b.stack = some x) :
    (b.close L x i).Within i := by
  have hxm := h.stack _ (top_mem L _ x hx)
  refine ⟨fun e he => h.stack e (pop_subset L _ e he), fun e he => ?_⟩
  rcases List.mem_append.mp he with he | he
  · exact h.result e he
  · cases List.mem_singleton.mp he; exact ⟨hxm.1, hxm.2, Nat.le_refl _⟩

structure Within (st : Bufs) (cur : Nat) : Prop where
  add : st.add.Within cur
  del : st.del.Within cur

theorem stepEv_within (i : Nat) (st st' : Bufs) (k : Tok) (cur : Nat) (hi : 1 ≤ i) (hcur : cur ≤ i)
    (hw : Within st cur) (h : stepEv i st k = .ok st') : Within st' i := by
  have ha := hw.add.mono hcur
  have hd := hw.del.mono hcur
  obtain ⟨b, L, a⟩ := k
  cases b <;> cases a <;> simp only [stepEv] at h
  · cases h; exact ⟨ha.append hi L, hd⟩
  · cases h; exact ⟨ha.open hi L, hd⟩
  · cases h; exact ⟨ha.append hi L, hd⟩
  · cases h; exact ⟨ha.open hi L, hd⟩
  · cases h; exact ⟨ha, hd.append hi L⟩
  · cases h; exact ⟨ha, hd.open hi L⟩
  · split at h
    · cases h
    · rename_i x hx _; cases h; exact ⟨ha.close hx, hd⟩
    · rename_i y _ hy; cases h; exact ⟨ha, hd.close hy⟩
    · rename_i x y hx hy
      split at h
      · cases h; exact ⟨ha, hd.close hy⟩
      · cases h; exact ⟨ha.close hx, hd⟩
  · cases h

theorem runToks_within (toks : List (Nat × Str)) :
    ∀ st st' cur N, Within st cur → cur ≤ N →
      toks.Pairwise (fun a b => a.1 ≤ b.1) → (∀ t ∈ toks, 1 ≤ t.1 ∧ cur ≤ t.1 ∧ t.1 ≤ N) →
      (runToks O) st toks = .ok st' → Within st' N := by
  induction toks with
  | nil => intro st st' cur N hw hc _ _ h; cases h; exact ⟨hw.add.mono hc, hw.del.mono hc⟩
  | cons p rest ih =>
    obtain ⟨i, t⟩ := p
    intro st st' cur N hw hc hp hb h
    simp only [runToks] at h
    split at h
    · rename_i st1 hst1
      have hbi := hb (i, t) (by simp)
      obtain ⟨k, -, hst1⟩ := stepEv_of_stepTok hst1
      have hw1 := stepEv_within i st st1 k cur hbi.1 hbi.2.1 hw hst1
      have hp' := List.pairwise_cons.mp hp
      exact ih st1 st' i N hw1 hbi.2.2 hp'.2
        (fun q hq => ⟨(hb q (List.mem_cons_of_mem _ hq)).1, hp'.1 q hq, (hb q (List.mem_cons_of_mem _ hq)).2.2⟩) h
    · cases h

theorem numberedTokens_bounds (lines : List Str) : ∀ i, ∀ t ∈ (numberedTokens O) i lines,
    i ≤ t.1 ∧ t.1 < i + lines.length := by
  induction lines with
  | nil => intro i t ht; simp [numberedTokens] at ht
  | cons l ls ih =>
    intro i t ht
    simp only [numberedTokens, List.mem_append, List.mem_map] at ht
    rcases ht with ⟨x, _, rfl⟩ | ht
    · simp
    · have := ih (i + 1) t ht
      simp only [List.length_cons]; omega

theorem numberedTokens_sorted (lines : List Str) : ∀ i,
    ((numberedTokens O) i lines).Pairwise (fun a b => a.1 ≤ b.1) := by
  induction lines with
  | nil => intro i; simp [numberedTokens]
  | cons l ls ih =>
    intro i
    simp only [numberedTokens]
    refine List.pairwise_append.mpr
      ⟨List.pairwise_map.mpr (List.pairwise_of_forall fun _ _ => Nat.le_refl _), ih (i + 1), ?_⟩
    · intro a ha b hb
      simp only [List.mem_map] at ha
      obtain ⟨_, _, rfl⟩ := ha
      have := (numberedTokens_bounds ls (i + 1) b hb).1
      simp only; omega

theorem mem_entries_getResult (res : List Entry) (e : Entry) (h : e ∈ Sched.entries (getResult res)) :
    e ∈ res := by
  simp only [Sched.entries, getResult, List.mem_flatMap, List.mem_map] at h
  obtain ⟨p, ⟨L, _, rfl⟩, sp, hsp, rfl⟩ := h
  have : sp ∈ spansOf L res := (isort_perm _ _).mem_iff.mp hsp
  simp only [spansOf, List.mem_filterMap] at this
  obtain ⟨x, hx, hx2⟩ := this
  split at hx2
  · rename_i hL
    simp only [Option.some.injEq] at hx2
    subst hL; subst hx2
    exact hx
  · cases hx2

theorem collectHints_spans (c : Str) (a d : Sched) (h : (collectHints O) c = .ok (a, d)) :
    ∀ e ∈ a.entries ++ d.entries, 1 ≤ e.2.1 ∧ e.2.1 ≤ e.2.2 ∧ e.2.2 ≤ lineCount c := by
  obtain ⟨st, hst, rfl, rfl⟩ := collectHints_ok h
  have hb := numberedTokens_bounds (O := O) (splitNL c) 1
  have hw := runToks_within _ {} st 0 (lineCount c)
    ⟨⟨by simp, by simp⟩, ⟨by simp, by simp⟩⟩ (Nat.zero_le _) (numberedTokens_sorted _ 1)
    (fun t ht => by have := hb t ht; simp only [lineCount]; omega) hst
  intro e he
  rcases List.mem_append.mp he with he | he
  · exact hw.add.result e (mem_entries_getResult _ e he)
  · exact hw.del.result e (mem_entries_getResult _ e he)

end Paroxy.Hints
