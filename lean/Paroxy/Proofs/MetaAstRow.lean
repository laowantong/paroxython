/-
The row of the default taxonomy that files construction errors, and the fact that it IS a data line
of the current `taxonomy.tsv` (`Gen.TaxonomyCodes` is regenerated from /repo on every run).
`rawLines` is first described on a text given as joined lines (`mem_rawLines_join`); what is left to
evaluate is a scan of the packed lines up to the row for `-- EOF`, on `Nat`s.
-/
import Paroxy.Spec.TaxonomyDefault
import Paroxy.Proofs.SplitOn
namespace Paroxy.MetaAst
open Paroxy Paroxy.Taxo Paroxy.Spec.Taxo Paroxy.Dedup

/-- The line of taxonomy.tsv that files construction errors: `meta/ast/\1 <TAB> ast_construction:(.+)`. -/
def astLine : Str := "meta/ast/\\1\tast_construction:(.+)".toList
def astRow : Row := ("meta/ast/\\1".toList, "ast_construction:(.+)".toList)
def astPrefix : Str := "ast_construction:".toList
def metaAstPrefix : Str := "meta/ast/".toList

section Lists
variable {α : Type}

theorem mem_join {sep c : α} {l : List α} (hc : c ∈ l) :
    ∀ {ls : List (List α)}, l ∈ ls → c ∈ join sep ls
  | [a], h => by simp at h; subst h; exact hc
  | a :: b :: r, h => by
    rcases List.mem_cons.mp h with rfl | h
    · simp [join, hc]
    · simp [join, mem_join hc h]

/-- A prefix of `A ++ B` that does not contain the first element of `B` lies within `A`. -/
theorem prefix_of_prefix_append {n A B : List α} (h : n <+: A ++ B) (hB : ∀ c ∈ B.head?, c ∉ n) :
    n <+: A := by
  rcases List.prefix_or_prefix_of_prefix h (List.prefix_append A B) with h' | ⟨k, rfl⟩
  · exact h'
  · cases k with
    | nil => simp
    | cons d k =>
      rw [List.prefix_append_right_inj] at h
      obtain ⟨t, rfl⟩ := h
      exact absurd (by simp) (hB d (by simp))

theorem infix_append_cons {n X Y : List α} {c : α} (hc : c ∉ n) (h : n <:+: X ++ c :: Y) :
    n <:+: X ∨ n <:+: Y := by
  induction X with
  | nil =>
    rcases List.infix_cons_iff.mp h with h | h
    · exact .inl (prefix_of_prefix_append (A := []) h (by simpa using hc)).isInfix
    · exact .inr h
  | cons x X ih =>
    rcases List.infix_cons_iff.mp h with h | h
    · exact .inl (prefix_of_prefix_append (A := x :: X) h (by simpa using hc)).isInfix
    · exact (ih h).imp_left fun h => List.infix_cons h

/-- What contains no separator and occurs in a joined text occurs in one of the parts. -/
theorem infix_join {n : List α} {sep : α} (hsep : sep ∉ n) :
    ∀ {ls : List (List α)}, n <:+: join sep ls → n = [] ∨ ∃ l ∈ ls, n <:+: l
  | [], h => .inl (by simpa [join] using h)
  | [a], h => .inr ⟨a, by simp, h⟩
  | a :: b :: r, h => by
    rcases infix_append_cons hsep (show n <:+: a ++ sep :: join sep (b :: r) from h) with h | h
    · exact .inr ⟨a, by simp, h⟩
    · exact (infix_join hsep h).imp_right fun ⟨l, hl, hn⟩ => ⟨l, by simp [hl], hn⟩

end Lists

theorem cutAt_prefix (needle : Str) : ∀ s : Str, cutAt needle s <+: s
  | [] => by simp [cutAt]
  | c :: t => by
    unfold cutAt
    split
    · simp
    · exact (List.prefix_cons_inj c).mpr (cutAt_prefix needle t)

theorem cutAt_append {needle A B : Str} (hA : ¬ needle <:+: A) (hB : ∀ c ∈ B.head?, c ∉ needle) :
    cutAt needle (A ++ B) = A ++ cutAt needle B := by
  induction A with
  | nil => rfl
  | cons c A ih =>
    have hp : needle.isPrefixOf (c :: A ++ B) = false := by
      rw [Bool.eq_false_iff, Ne, List.isPrefixOf_iff_prefix]
      exact fun h => hA (prefix_of_prefix_append h hB).isInfix
    rw [List.cons_append, cutAt, List.cons_append.symm, hp, if_neg (by simp),
      ih fun h => hA (List.infix_cons h)]
    rfl

theorem lstrip_append_of_mem {P : Str} (hP : ∃ c ∈ P, isSpace c = false) (X : Str) :
    lstrip (P ++ X) = lstrip P ++ X := by
  induction P with
  | nil => simp at hP
  | cons a P ih =>
    cases ha : isSpace a
    · simp [lstrip, ha]
    · have : ∃ c ∈ P, isSpace c = false := by
        obtain ⟨c, hc, hcs⟩ := hP
        rcases List.mem_cons.mp hc with rfl | hc
        · simp [ha] at hcs
        · exact ⟨c, hc, hcs⟩
      simpa [lstrip, List.dropWhile_cons, ha] using ih this

/-- `strip` leaves alone a middle part that ends in a non-blank and follows a non-blank. -/
theorem strip_append_append {P M C : Str} (hP : ∃ c ∈ P, isSpace c = false)
    (hM : ∃ c ∈ M.getLast?, isSpace c = false) :
    ∃ P' C', strip (P ++ M ++ C) = P' ++ M ++ C' ∧ C' <+: C := by
  obtain ⟨c, hc, hcs⟩ := hM
  obtain ⟨M, rfl⟩ := List.getLast?_eq_some_iff.mp hc
  refine ⟨lstrip P, (lstrip C.reverse).reverse, ?_,
    by simpa [lstrip] using List.reverse_prefix.mpr (List.dropWhile_suffix (l := C.reverse) isSpace)⟩
  rw [strip, List.append_assoc, lstrip_append_of_mem hP]
  simp only [List.reverse_append, List.reverse_cons, List.nil_append, List.cons_append,
    List.append_assoc]
  simp [lstrip, List.dropWhile_append, hcs]

theorem mem_rawLines {P line B : Str} (hP : ∃ c ∈ P, isSpace c = false)
    (hmark : ¬ eofMark <:+: P ++ '\n' :: line) (hnl : '\n' ∉ line)
    (hlast : ∃ c ∈ line.getLast?, isSpace c = false) (hB : ∀ c ∈ B.head?, c = '\n') :
    line ∈ rawLines (P ++ '\n' :: line ++ B) := by
  have hcut : cutAt eofMark (P ++ '\n' :: line ++ B) = P ++ '\n' :: line ++ cutAt eofMark B :=
    cutAt_append hmark fun c hc => by rw [hB c hc]; decide
  obtain ⟨P', C', hs, hC'⟩ := strip_append_append (M := '\n' :: line) (C := cutAt eofMark B) hP (by
    obtain ⟨c, hc, hcs⟩ := hlast
    exact ⟨c, by simp [List.getLast?_cons, Option.mem_def.mp hc], hcs⟩)
  have hmem : line ∈ splitOn '\n' (line ++ C') := by
    cases C' with
    | nil => simp [splitOn_of_not_mem _ _ hnl]
    | cons d D =>
      obtain ⟨t, ht⟩ := hC'.trans (cutAt_prefix eofMark B)
      rw [hB d (by simp [← ht]), splitOn_append_sep _ _ _ hnl]
      simp
  rw [rawLines, hcut, hs, List.append_assoc, List.cons_append, splitOn_append_cons]
  cases h : splitOn '\n' P' with
  | nil => exact absurd h (splitOn_ne_nil _ _)
  | cons x r => simp [hmem]

/-- A line of a text is one of its data lines when it contains no newline, ends in a non-blank, comes
after some non-blank line, and `-- EOF` occurs neither in it nor before it. -/
theorem mem_rawLines_join {pre post : List Str} {line : Str} (hpre : ∃ l ∈ pre, ∃ c ∈ l, isSpace c = false)
    (hmark : ∀ l ∈ pre ++ [line], ¬ eofMark <:+: l) (hnl : '\n' ∉ line)
    (hlast : ∃ c ∈ line.getLast?, isSpace c = false) :
    line ∈ rawLines (join '\n' (pre ++ line :: post)) := by
  obtain ⟨l, hl, c, hc, hcs⟩ := hpre
  have hne : pre ≠ [] := List.ne_nil_of_mem hl
  obtain ⟨B, hB, hj⟩ : ∃ B : Str, (∀ c ∈ B.head?, c = '\n') ∧ join '\n' (line :: post) = line ++ B := by
    cases post with
    | nil => exact ⟨[], by simp, by simp [join]⟩
    | cons b r => exact ⟨'\n' :: join '\n' (b :: r), by simp, rfl⟩
  rw [join_append _ _ _ hne (by simp), hj, ← List.cons_append, ← List.append_assoc]
  refine mem_rawLines ⟨c, mem_join hc hl, hcs⟩ (fun h => ?_) hnl hlast hB
  have : eofMark <:+: join '\n' (pre ++ [line]) := by rwa [join_append _ _ _ hne (by simp)]
  rcases infix_join (by decide) this with h | ⟨l, hl, h⟩
  · exact absurd h (by decide)
  · exact hmark l hl h

/-- The characters of a packed line, as `Gen.taxonomyChars` has them. -/
def decode (p : Nat × Nat) : Str := (Gen.unpackCodes p.1 p.2).map Char.ofNat

/-- A line packed the way `Gen.taxonomyPacked` packs it. -/
def encode (l : Str) : Nat × Nat := (l.length, l.foldr (fun c n => c.toNat + 1 + 2097152 * n) 0)

/-- The lowest digits of the packed number `n` are the codes `ds`. -/
def startsWith : List Nat → Nat → Bool
  | [], _ => true
  | d :: ds, n => Nat.beq (n % 2097152) (d + 1) && startsWith ds (n / 2097152)

/-- The codes `d :: ds` occur among the lowest `fuel` digits of `n`. The kernel evaluates this at every
position of the table: the comparison of the first code, which fails almost everywhere, is kept out
of the recursion on the codes and is a `Nat.beq`, which the kernel computes by itself. -/
def occurs (d : Nat) (ds : List Nat) : Nat → Nat → Bool
  | 0, _ => false
  | fuel + 1, n =>
    (Nat.beq (n % 2097152) (d + 1) && startsWith ds (n / 2097152)) || occurs d ds fuel (n / 2097152)

/-- `Char.ofNat` sends the invalid codes to `'\x00'`: it is injective where the value is another character. -/
theorem ofNat_inj_of_pos {c d : Nat} (h : Char.ofNat c = Char.ofNat d) (hd : 0 < d ∧ d < 55296) : c = d := by
  have hto : ∀ n, (Char.ofNat n).toNat = if n.isValidChar then n else 0 := fun n => by
    unfold Char.ofNat
    split <;> rfl
  have := congrArg Char.toNat h
  rw [hto, hto, if_pos (.inl hd.2 : d.isValidChar)] at this
  split at this <;> omega

theorem startsWith_of_prefix {ds : List Nat} (hds : ∀ d ∈ ds, 0 < d ∧ d < 55296) :
    ∀ fuel n, ds.map Char.ofNat <+: (Gen.unpackCodes fuel n).map Char.ofNat → startsWith ds n = true := by
  induction ds with
  | nil => intros; rfl
  | cons d ds ih =>
    intro fuel n h
    cases fuel with
    | zero => simp [Gen.unpackCodes] at h
    | succ fuel =>
      rw [Gen.unpackCodes] at h
      split at h
      · simp at h
      · rw [List.map_cons, List.map_cons, List.cons_prefix_cons] at h
        have hd := hds d (by simp)
        have := ofNat_inj_of_pos h.1.symm hd
        rw [startsWith, Bool.and_eq_true, Nat.beq_eq]
        exact ⟨by omega, ih (fun d hd => hds d (by simp [hd])) _ _ h.2⟩

theorem occurs_of_infix {d : Nat} {ds : List Nat} (hds : ∀ x ∈ d :: ds, 0 < x ∧ x < 55296) :
    ∀ fuel n, (d :: ds).map Char.ofNat <:+: (Gen.unpackCodes fuel n).map Char.ofNat →
      occurs d ds fuel n = true := by
  intro fuel
  induction fuel with
  | zero => intro n h; simp [Gen.unpackCodes] at h
  | succ fuel ih =>
    intro n h
    rw [occurs, Bool.or_eq_true]
    rcases hl : (Gen.unpackCodes (fuel + 1) n).map Char.ofNat with _ | ⟨c, t⟩
    · simp [hl] at h
    · rw [hl, List.infix_cons_iff] at h
      rcases h with h | h
      · exact .inl (startsWith_of_prefix hds _ n (hl ▸ h))
      · refine .inr (ih _ ?_)
        rw [Gen.unpackCodes] at hl
        split at hl
        · simp at hl
        · rw [List.map_cons, List.cons.injEq] at hl
          exact hl.2 ▸ h

theorem exists_split_of_mem {β : Type} [BEq β] [LawfulBEq β] {a : β} :
    ∀ {l : List β}, a ∈ l → ∃ post, l = l.takeWhile (· != a) ++ a :: post
  | x :: l, h => by
    by_cases hx : x = a
    · exact ⟨l, by simp [hx]⟩
    · obtain ⟨post, hp⟩ := exists_split_of_mem ((List.mem_cons.mp h).resolve_left (Ne.symm hx))
      exact ⟨post, by
        simp only [List.takeWhile_cons, bne_iff_ne, ne_eq, hx, not_false_eq_true, if_true, List.cons_append, ← hp]⟩

/-- `mem_rawLines_join` for a table of packed lines, the lines before `a` being those before its first
occurrence; the hypothesis is a computation on the table and on `a`. -/
theorem mem_rawLines_packed {tbl : List (Nat × Nat)} {a : Nat × Nat} {line : Str}
    (h : decode a = line ∧ tbl.contains a = true ∧
      (tbl.takeWhile (· != a) ++ [a]).all (fun p => !occurs 45 [45, 32, 69, 79, 70] p.1 p.2) = true ∧
      (tbl.takeWhile (· != a)).any (fun p => (decode p).any (!isSpace ·)) = true ∧
      '\n' ∉ decode a ∧ ∃ c ∈ (decode a).getLast?, isSpace c = false) :
    line ∈ rawLines (join '\n' (tbl.map decode)) := by
  obtain ⟨rfl, hmem, hmark, hpre, hnl, hlast⟩ := h
  obtain ⟨post, hs⟩ := exists_split_of_mem (List.contains_iff_mem.mp hmem)
  rw [hs, List.map_append, List.map_cons]
  refine mem_rawLines_join ?_ ?_ hnl hlast
  · obtain ⟨p, hp, hc⟩ := List.any_eq_true.mp hpre
    obtain ⟨c, hc, hcs⟩ := List.any_eq_true.mp hc
    exact ⟨decode p, List.mem_map_of_mem hp, c, hc, by simpa using hcs⟩
  · intro l hl h
    rw [← List.map_singleton, ← List.map_append, List.mem_map] at hl
    obtain ⟨p, hp, rfl⟩ := hl
    have := List.all_eq_true.mp hmark p hp
    rw [occurs_of_infix (d := 45) (ds := [45, 32, 69, 79, 70]) (by decide) p.1 p.2 h] at this
    exact absurd this (by decide)

/-- Proof obligation on the CURRENT taxonomy.tsv (kernel computation on the regenerated table): the
line is one of its data lines. Removing or changing that row breaks this theorem. -/
theorem astLine_in_default_table : (rawLines defaultText).contains astLine = true := by
  rw [List.contains_iff_mem, defaultText, Gen.taxonomyChars, Gen.taxonomyCodes, List.map_map]
  exact mem_rawLines_packed (a := encode astLine) (by decide +kernel)

theorem astRow_of_line : parseLineD astLine = astRow ∧ isLiteral astRow.2 = false := by decide +kernel

end Paroxy.MetaAst
