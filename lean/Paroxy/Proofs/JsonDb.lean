/-
Glue between the database model (Model/MakeDb.lean) and the JSON text layer (Model/JsonText.lean):
`J.ok (dbToJson db)` is the string-by-string hygiene `dbOk db`, and `dbToJson` is injective on databases whose spans
are naturals. At the end, the example data of Props/C11: a two-program collection, its `makeDb` output and the
hygiene of that output.
-/
import Paroxy.Model.JsonDb
import Paroxy.Proofs.JsonText
import Paroxy.Proofs.Dict
namespace Paroxy.JsonDb
open Paroxy Paroxy.DB Paroxy.JsonText

theorem okList_map {α : Type} (f : α → J) (l : List α) : J.okList (l.map f) = l.all fun a => J.ok (f a) := by
  induction l with
  | nil => simp [J.okList]
  | cons a t ih => simp [J.okList, ih]

theorem okMembers_map {α : Type} (f : α → J) (d : List (Name × α)) :
    J.okMembers (d.map fun e => (e.1, f e.2)) = d.all fun e => strOk e.1 && J.ok (f e.2) := by
  induction d with
  | nil => simp [J.okMembers]
  | cons a t ih => simp [J.okMembers, ih]

theorem ok_spansToJson (l : List PoorSpan) : J.ok (spansToJson l) = true := by
  simp [spansToJson, J.ok, okList_map, spanToJson, J.okList]

theorem ok_namesToJson (l : List Name) : J.ok (namesToJson l) = namesOk l := by
  simp [namesToJson, J.ok, okList_map, namesOk]

theorem ok_spanDictToJson (d : List (Name × List PoorSpan)) : J.ok (spanDictToJson d) = spanDictOk d := by
  simp [spanDictToJson, J.ok, okMembers_map, ok_spansToJson, spanDictOk]

theorem ok_nameDictToJson (d : List (Name × List Name)) : J.ok (nameDictToJson d) = nameDictOk d := by
  simp [nameDictToJson, J.ok, okMembers_map, ok_namesToJson, nameDictOk]

theorem strOk_keys : strOk kPrograms = true ∧ strOk kLabels = true ∧ strOk kTaxa = true ∧ strOk kImportations = true ∧
    strOk kExportations = true ∧ strOk kTimestamp = true ∧ strOk kSource = true := by
  unfold kPrograms kLabels kTaxa kImportations kExportations kTimestamp kSource
  repeat rw [codesOf_ofList]
  decide +kernel

theorem ok_recordToJson (r : Record) : J.ok (recordToJson r) = recordOk r := by
  obtain ⟨_, h2, h3, _, _, h6, h7⟩ := strOk_keys
  simp [recordToJson, J.ok, J.okMembers, ok_spanDictToJson, recordOk, h2, h3, h6, h7, Bool.and_assoc]

theorem ok_programsToJson (d : List (Name × Record)) :
    J.ok (programsToJson d) = d.all fun e => strOk e.1 && recordOk e.2 := by
  simp [programsToJson, J.ok, okMembers_map, ok_recordToJson]

theorem ok_dbToJson (db : Db) : J.ok (dbToJson db) = dbOk db := by
  obtain ⟨h1, h2, h3, h4, h5, _, _⟩ := strOk_keys
  simp [dbToJson, J.ok, J.okMembers, ok_programsToJson, ok_nameDictToJson, dbOk, h1, h2, h3, h4, h5, Bool.and_assoc]

theorem map_inj_on {α β : Type} (f : α → β) : ∀ (l1 l2 : List α),
    (∀ a ∈ l1, ∀ b ∈ l2, f a = f b → a = b) → l1.map f = l2.map f → l1 = l2
  | [], [], _, _ => rfl
  | [], _ :: _, _, h => by simp at h
  | _ :: _, [], _, h => by simp at h
  | a :: t1, b :: t2, hi, h => by
    simp only [List.map_cons, List.cons.injEq] at h
    have hab := hi a List.mem_cons_self b List.mem_cons_self h.1
    have ht := map_inj_on f t1 t2 (fun x hx y hy => hi x (List.mem_cons_of_mem _ hx) y (List.mem_cons_of_mem _ hy)) h.2
    rw [hab, ht]

theorem spanToJson_inj {a b : PoorSpan} (ha : spanNat a) (hb : spanNat b) (h : spanToJson a = spanToJson b) : a = b := by
  obtain ⟨a1, a2⟩ := a
  obtain ⟨b1, b2⟩ := b
  simp only [spanToJson, J.arr.injEq, List.cons.injEq, J.num.injEq, and_true] at h
  simp only [spanNat] at ha hb
  rw [Prod.mk.injEq]
  omega

theorem spansToJson_inj {l1 l2 : List PoorSpan} (h1 : ∀ s ∈ l1, spanNat s) (h2 : ∀ s ∈ l2, spanNat s)
    (h : spansToJson l1 = spansToJson l2) : l1 = l2 := by
  simp only [spansToJson, J.arr.injEq] at h
  exact map_inj_on _ _ _ (fun a ha b hb => spanToJson_inj (h1 a ha) (h2 b hb)) h

theorem namesToJson_inj {l1 l2 : List Name} (h : namesToJson l1 = namesToJson l2) : l1 = l2 := by
  simp only [namesToJson, J.arr.injEq] at h
  exact map_inj_on _ _ _ (fun a _ b _ hab => by simpa using hab) h

theorem nameDictToJson_inj {d1 d2 : List (Name × List Name)} (h : nameDictToJson d1 = nameDictToJson d2) : d1 = d2 := by
  simp only [nameDictToJson, J.obj.injEq] at h
  refine map_inj_on _ _ _ (fun a _ b _ hab => ?_) h
  simp only [Prod.mk.injEq] at hab
  exact Prod.ext hab.1 (namesToJson_inj hab.2)

theorem spanDictToJson_inj {d1 d2 : List (Name × List PoorSpan)} (h1 : spanDictNat d1) (h2 : spanDictNat d2)
    (h : spanDictToJson d1 = spanDictToJson d2) : d1 = d2 := by
  simp only [spanDictToJson, J.obj.injEq] at h
  refine map_inj_on _ _ _ (fun a ha b hb hab => ?_) h
  simp only [Prod.mk.injEq] at hab
  exact Prod.ext hab.1 (spansToJson_inj (h1 a ha) (h2 b hb) hab.2)

theorem recordToJson_inj {r1 r2 : Record} (h1 : spanDictNat r1.labels ∧ spanDictNat r1.taxa)
    (h2 : spanDictNat r2.labels ∧ spanDictNat r2.taxa) (h : recordToJson r1 = recordToJson r2) : r1 = r2 := by
  obtain ⟨t1, s1, l1, x1⟩ := r1
  obtain ⟨t2, s2, l2, x2⟩ := r2
  simp only [recordToJson, J.obj.injEq, List.cons.injEq, Prod.mk.injEq, J.str.injEq, true_and, and_true] at h
  obtain ⟨ht, hs, hl, hx⟩ := h
  have e1 : l1 = l2 := spanDictToJson_inj h1.1 h2.1 hl
  have e2 : x1 = x2 := spanDictToJson_inj h1.2 h2.2 hx
  rw [ht, hs, e1, e2]

theorem dbToJson_inj {a b : Db} (ha : spansNat a) (hb : spansNat b) (h : dbToJson a = dbToJson b) : a = b := by
  obtain ⟨p1, l1, t1, i1, e1⟩ := a
  obtain ⟨p2, l2, t2, i2, e2⟩ := b
  simp only [dbToJson, J.obj.injEq, List.cons.injEq, Prod.mk.injEq, true_and, and_true] at h
  obtain ⟨hp, hl, ht, hi, he⟩ := h
  have hp' : p1 = p2 := by
    simp only [programsToJson, J.obj.injEq] at hp
    refine map_inj_on _ _ _ (fun x hx y hy hxy => ?_) hp
    simp only [Prod.mk.injEq] at hxy
    exact Prod.ext hxy.1 (recordToJson_inj (ha x hx) (hb y hy) hxy.2)
  rw [hp', nameDictToJson_inj hl, nameDictToJson_inj ht, nameDictToJson_inj hi, nameDictToJson_inj he]

/-! A small `makeDb` output: `a.py` imports `b.py`. -/

def demoTaxa : Name → List Label → List Taxon :=
  fun _ ls => ls.map fun l => (⟨codesOf "T/" ++ l.name, l.spans⟩ : Taxon)
def demoA : Prog := ⟨codesOf "a.py", codesOf "2021", codesOf "import b\nx = \"é\"\n",
  [⟨codesOf "import:b", [(1, 1, codesOf "a.py")]⟩, ⟨codesOf "flow", [(2, 3, []), (2, 2, [])]⟩]⟩
def demoB : Prog := ⟨codesOf "b.py", codesOf "2021", codesOf "pass\n", [⟨codesOf "noop", [(1, 1, [])]⟩]⟩
def demoProgs : List Prog := [demoA, demoB]
def demoImps : List (Name × List Name) := [(codesOf "a.py", [codesOf "b.py"]), (codesOf "b.py", [])]
def demoExps : List (Name × List Name) := [(codesOf "a.py", []), (codesOf "b.py", [codesOf "a.py"])]
def demoOut : Db :=
  { programs := demoProgs.foldl (fun d p => set d p.path (recordOf demoTaxa (internalOf demoProgs) p)) []
    labels := sortKeys (collectNew (labelOcc (labelled demoProgs)))
    taxa := sortKeys (collect (taxonOcc (taxaed demoTaxa demoProgs)))
    importations := demoImps
    exportations := demoExps }

theorem demo_imps : completeImportations (directImportations (labelled demoProgs)) = demoImps := by
  have hd : directImportations (labelled demoProgs) = demoImps := by decide +kernel
  rw [hd]
  have s1 : succs demoImps (codesOf "a.py") = [codesOf "b.py"] := by decide +kernel
  have s2 : succs demoImps (codesOf "b.py") = [] := by decide +kernel
  have ne : codesOf "b.py" ∉ ([] : List Name) := by simp
  simp only [completeImportations, demoImps, List.map, closureOf]
  rw [show ([(codesOf "a.py", [codesOf "b.py"]), (codesOf "b.py", [])] : List (Name × List Name)) = demoImps from rfl, s1, s2]
  simp only [List.reverse_cons, List.reverse_nil, List.nil_append]
  rw [closureLoop, closureLoop, if_neg ne, s2, List.reverse_nil, List.nil_append, closureLoop]
  decide +kernel

/-- `makeDb` on the two demonstration programs (the closure is a well-founded recursion: unfolded by hand). -/
theorem demo_makeDb : makeDb demoTaxa demoProgs = .ok demoOut := by
  have he : exportations (demoProgs.map (·.path)) demoImps = .ok demoExps := by
    have h1 : (exportations (demoProgs.map (·.path)) demoImps).toOption = some demoExps := by decide +kernel
    cases h : exportations (demoProgs.map (·.path)) demoImps with
    | error e => rw [h] at h1; cases h1
    | ok x => rw [h] at h1; simp only [Except.toOption, Option.some.injEq] at h1; rw [h1]
  unfold makeDb
  simp only []
  rw [demo_imps, he]
  rfl

theorem demoOut_ok : dbOk demoOut = true := by decide +kernel

end Paroxy.JsonDb
