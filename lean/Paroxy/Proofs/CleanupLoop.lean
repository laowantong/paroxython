/-
The token loop of `full_cleaning`: what it emits for token `i`, as a function of the token, of the tokens
before it and of the kind of the next code token (`loop_piece`).
-/
import Paroxy.Proofs.Cleanup
namespace Paroxy.Cleanup
open Paroxy.Cleanup.Spec

theorem loopFrom_length (st : LoopState) (ts : List Token) : (loopFrom st ts).length = ts.length := by
  induction ts generalizing st with
  | nil => simp [loopFrom]
  | cons t ts ih => simp [loopFrom, ih]

theorem loopFrom_getElem (st : LoopState) (ts : List Token) (i : Nat) (h : i < ts.length) :
    (loopFrom st ts)[i]'(by rw [loopFrom_length]; exact h) =
      (step (stateAfter st (ts.take i) (ts.drop i)) ts[i] (lookAhead (ts.drop (i + 1)))).2 := by
  induction ts generalizing st i with
  | nil => simp at h
  | cons t ts ih =>
    cases i with
    | zero => simp [loopFrom, stateAfter]
    | succ j =>
      simp only [loopFrom, List.getElem_cons_succ, List.take_succ_cons, List.drop_succ_cons, stateAfter,
        List.take_append_drop]
      exact ih _ j (by simpa using h)

/-- A transparent token opens no statement: whether it is remembered or the token before it, the
answer to "does the remembered token open a statement" is that of the token before. -/
theorem nextPrev_opens (p k : Kind) :
    (nextPrev p k).opensStmt = if transparent k = true then p.opensStmt else k.opensStmt := by
  unfold nextPrev
  by_cases hk : k = .nl ∨ k = .comment
  · have ht : transparent k = true ∧ k.opensStmt = false := by rcases hk with rfl | rfl <;> exact ⟨rfl, rfl⟩
    rw [if_pos ht.1]
    by_cases hp : p.opensStmt = true
    · rw [if_pos ⟨hk, hp⟩]
    · rw [if_neg (fun h => hp h.2), ht.2, Bool.eq_false_iff.mpr hp]
  · have ht : ¬ transparent k = true := by simpa [transparent] using hk
    rw [if_neg (fun h => hk h.1), if_neg ht]

theorem step_opens (st : LoopState) (t : Token) (nx : Option Kind) :
    (step st t nx).1.prev.opensStmt =
      if transparent t.kind = true then st.prev.opensStmt else t.kind.opensStmt := by
  have hp : (step st t nx).1.prev =
      if t.kind = .comment ∧ (normalizeComment t.str).2 = 0 then st.prev else nextPrev st.prev t.kind := by
    -- a field of `if c then x else y` is the `if` of the fields
    simp only [step, apply_ite Prod.fst, apply_ite LoopState.prev, ite_self]
    split <;> simp [*]
  rw [hp]
  split
  · rename_i h; simp [h.1, transparent]
  · exact nextPrev_opens _ _

/-- `stateAfter` reads the tokens before `i` from the left, `atStmtStartB` from the right: the state after one more
token. -/
theorem stateAfter_snoc (st : LoopState) (pre : List Token) (t : Token) (rest : List Token) :
    stateAfter st (pre ++ [t]) rest = (step (stateAfter st pre (t :: rest)) t (lookAhead rest)).1 := by
  induction pre generalizing st with
  | nil => rfl
  | cons u us ih =>
    simp only [List.cons_append, stateAfter, List.append_assoc, List.nil_append]
    exact ih _

theorem stateAfter_init_opens (pre rest : List Token) :
    (stateAfter .init pre rest).prev.opensStmt = atStmtStartB pre := by
  rw [← List.reverse_reverse pre]
  generalize pre.reverse = r
  induction r generalizing rest with
  | nil => rfl
  | cons t r ih =>
    rw [List.reverse_cons, stateAfter_snoc, step_opens, ih]
    simp only [atStmtStartB, List.map_append, List.reverse_append]
    rfl

theorem atStmtStartB_iff (pre : List Token) : atStmtStartB pre = true ↔ AtStmtStart pre := by
  unfold atStmtStartB AtStmtStart
  generalize (pre.map (·.kind)).reverse = r
  fun_induction atStmtStartRev r with
  | case1 => exact iff_of_true rfl (Or.inl rfl)
  | case2 k r hk ih =>
    rw [List.dropWhile_cons, if_pos hk]
    exact ih
  | case3 k r hk =>
    rw [List.dropWhile_cons, if_neg hk]
    constructor
    · exact fun h => Or.inr ⟨k, r, rfl, h⟩
    · rintro (h | ⟨k', r', h, hk'⟩)
      · cases h
      · rw [(List.cons.inj h).1]
        exact hk'

theorem lookAhead_eq (ts : List Token) : lookAhead ts = nextCodeKind ts := by
  unfold lookAhead
  fun_induction nextCodeKind ts with
  | case1 => rfl
  | case2 t ts hc ih => rw [List.find?_cons_of_neg (by simp [hc]), ih]
  | case3 t ts hc =>
    rw [List.find?_cons_of_pos (by simp [hc])]
    rfl

theorem loop_piece (ts : List Token) (i : Nat) (h : i < ts.length) :
    ((loop ts)[i]'(by rw [loop, loopFrom_length]; exact h)).piece =
      if ts[i].kind = .comment then
        (if (normalizeComment ts[i].str).2 = 0 then .dropped else .hint (normalizeComment ts[i].str).1)
      else if ts[i].kind = .string ∧ atStmtStartB (ts.take i) = true ∧
          nextCodeKind (ts.drop (i + 1)) = some .newline then .pass
      else if ts[i].kind = .fstringMiddle then .verbatim (doubleBraces ts[i].str)
      else .verbatim ts[i].str := by
  simp only [loop]
  rw [loopFrom_getElem _ _ _ h]
  simp only [step, apply_ite Prod.snd, apply_ite Emit.piece, lookAhead_eq, stateAfter_init_opens]

end Paroxy.Cleanup
