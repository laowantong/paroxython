/-
The second capture of the `node` feature at a positioned node is
the position of its last positioned strict descendant in dump order.
-/
import Paroxy.Proofs.NodeSpan
import Paroxy.Proofs.FlatBackport
import Paroxy.Proofs.FlatEntries
namespace Paroxy.Flat

section Run
/- `findLastPos g` and `findLastWhole` go down a run of lines and return what the last line that offers
something gives: `F (l :: L) = (F L).orElse fun _ => f l L` as long as `l` belongs to the run. -/
variable {α : Type} {F : List Str → Option α} {run : Str → Prop} {f : Str → List Str → Option α}
  (hcons : ∀ l L, run l → F (l :: L) = (F L).orElse (fun _ => f l L))
include hcons

/-- A run that ends with a line on which `f` succeeds: that line is taken unless something is found after it. -/
theorem run_last {x : α} {l : Str} {L : List Str} (hl : run l) (hx : f l L = some x) :
    ∀ A : List Str, (∀ a ∈ A, run a) → F (A ++ l :: L) = some ((F L).getD x)
  | [], _ => by rw [List.nil_append, hcons l L hl, hx]; cases F L <;> rfl
  | a :: A, h => by
    rw [List.cons_append, hcons _ _ (h a (by simp)), run_last hl hx A (fun b hb => h b (List.mem_cons_of_mem _ hb))]
    rfl

theorem run_skip : ∀ (A L : List Str), (∀ l ∈ A, run l ∧ ∀ L', f l L' = none) → F (A ++ L) = F L
  | [], _, _ => rfl
  | a :: A, L, h => by
    rw [List.cons_append, hcons _ _ (h a (by simp)).1, run_skip A L (fun l hl => h l (List.mem_cons_of_mem _ hl)),
      (h a (by simp)).2]
    cases F L <;> rfl

end Run

theorem findLastPos_cons_run {g : Str} (l : Str) (L : List Str) (h : startsWithMore g l = true) :
    findLastPos g (l :: L) = (findLastPos g L).orElse (fun _ => lastPos? g l L) := by
  simp only [findLastPos, h, if_true]
  cases findLastPos g L <;> rfl

/-- The entry lies strictly under the prefix `g`. -/
def EntryUnder (g : Str) (e : Entry) : Prop := ∃ t, t ≠ [] ∧ encNames e.names = g ++ '/' :: t

theorem findLastPos_entry (h : Str → Str) (hn : HashNoNewline h) {g : Str} (hg : '=' ∉ g)
    (e : Entry) (hok : e.ok2 = true) (hu : EntryUnder g e) (Z : List Str) :
    findLastPos g (e.lines h ++ Z) =
      (findLastPos g Z).orElse (fun _ => e.posOf.map fun p => posText p.1 p.2) := by
  obtain ⟨t, ht, htn⟩ := hu
  have hrun : ∀ l ∈ e.lines h, startsWithMore g l = true := by
    intro l hl
    obtain ⟨lit, V, _, rfl⟩ := mem_entry_lines hl
    rw [htn]
    simp only [startsWithMore, Bool.and_eq_true, List.isPrefixOf_iff_prefix, decide_eq_true_eq]
    exact ⟨⟨'/' :: t ++ lit ++ '=' :: V, by simp⟩, by simp⟩
  have hfail : e.posOf = none → findLastPos g (e.lines h ++ Z) =
      (findLastPos g Z).orElse (fun _ => e.posOf.map fun p => posText p.1 p.2) := by
    intro hp
    rw [hp, run_skip findLastPos_cons_run]
    · cases findLastPos g Z <;> rfl
    · intro l hl
      refine ⟨hrun l hl, fun L' => ?_⟩
      cases hq : lastPos? g l L' with
      | none => rfl
      | some p =>
        obtain ⟨ty, isE, r, n, hi, _⟩ := lastPos_entry_line h hn e hok L' hg hl hq
        simp [Entry.posOf, hi] at hp
  obtain ⟨addr, names, item⟩ := e
  cases item with
  | node ty isE r ln =>
    cases ln with
    | none => exact hfail rfl
    | some n =>
      simp only at htn
      have hpre : '=' ∉ encNames names := Entry.ok_pre (Entry.ok_of_ok2 hok)
      have ht' : '=' ∉ t := fun hm => hpre (by rw [htn]; simp [hm])
      have hlines : Entry.lines h ⟨addr, names, .node ty isE r (some n)⟩ =
          (typeLine (encNames names) ty :: (if isE then [hashLine (encNames names) (h r)] else [])) ++
            [posLine (encNames names) n (encPath addr)] := by
        simp [Entry.lines]
      -- the position line is accepted by the last-POS pattern, which captures its position text
      have hpos : lastPos? g (posLine (encNames names) n (encPath addr)) Z = some (posText n addr) := by
        have hl : posLine (encNames names) n (encPath addr) =
            (g ++ '/' :: (t ++ cs!"/_pos")) ++ '=' :: posText n addr := by rw [posLine_eq, htn]; simp
        have hlen : 0 < t.length := List.length_pos_iff.mpr ht
        have hs : (cs!"/_pos").isSuffixOf (t ++ cs!"/_pos") = true := List.isSuffixOf_iff_suffix.mpr ⟨t, rfl⟩
        have hne : (posText n addr).isEmpty = false := by simp [posText]
        rw [hl, lastPos_keyval_eq Z (not_mem_append_lit ht' (by decide))
          (not_mem_posText rfl (by decide) (by decide) n addr), hs, hne]
        simp only [List.length_append, List.length_cons, List.length_nil]
        rw [if_pos (by simp; omega)]
      -- and it is the last line of the entry
      rw [hlines, List.append_assoc, List.singleton_append,
        run_last findLastPos_cons_run (hrun _ (by rw [hlines]; simp)) hpos _
          (fun l hl => hrun l (by rw [hlines]; exact List.mem_append_left _ hl))]
      cases findLastPos g Z <;> rfl
  | list q k => exact hfail rfl
  | scalar r => exact hfail rfl

theorem lastPosOfEntries_cons (e : Entry) (es : List Entry) :
    lastPosOfEntries (e :: es) = (lastPosOfEntries es).orElse (fun _ => e.posOf) := by
  have hf : ∀ es, lastPosOfEntries es = (es.filterMap Entry.posOf).getLast? := fun _ => rfl
  rw [hf, hf, List.filterMap_cons]
  cases e.posOf with
  | none => cases (es.filterMap Entry.posOf).getLast? <;> rfl
  | some p => rw [List.getLast?_cons]; cases (es.filterMap Entry.posOf).getLast? <;> rfl

/-- `findLastPos` across the lines of a list of entries under `g`, followed by lines where it finds
nothing: the position text of the last positioned entry. -/
theorem findLastPos_entries (h : Str → Str) (hn : HashNoNewline h) {g : Str} (hg : '=' ∉ g)
    (Y : List Str) (hY : findLastPos g Y = none) : ∀ (es : List Entry),
    (∀ e ∈ es, e.ok2 = true ∧ EntryUnder g e) →
    findLastPos g (es.flatMap (Entry.lines h) ++ Y) = (lastPosOfEntries es).map (fun p => posText p.1 p.2)
  | [], _ => by simp [hY, lastPosOfEntries]
  | e :: es, hall => by
    have ih := findLastPos_entries h hn hg Y hY es (fun x hx => hall x (List.mem_cons_of_mem _ hx))
    rw [List.flatMap_cons, List.append_assoc,
      findLastPos_entry h hn hg e (hall e (by simp)).1 (hall e (by simp)).2, ih, lastPosOfEntries_cons]
    cases lastPosOfEntries es <;> rfl

theorem findLastPos_none_of_not_under {g : Str} : ∀ (Y : List Str), (∀ l ∈ Y, ¬ (g ++ ['/']) <+: l) →
    findLastPos g Y = none
  | [], _ => rfl
  | l :: Y, h => by
    simp only [findLastPos]
    split
    · rw [findLastPos_none_of_not_under Y (fun x hx => h x (List.mem_cons_of_mem _ hx)),
        lastPos_none_of_not_prefix Y (h l (by simp))]
    · rfl

def GoodMatches (P : Str → Bool) (MS : List (Str × List Str)) : Prop :=
  ∀ m ∈ MS, P m.1 = true → GoodSpan m

theorem fieldNameOk_iff {n : Str} : fieldNameOk n = true ↔ nameOk n = true ∧ n ≠ [] := by
  simp [fieldNameOk, nameOk, and_assoc]

theorem goodMatches_append {P : Str → Bool} {D1 D2 R : List Str} {MS1 MS2 : List (Str × List Str)}
    (h1 : nodeMatches (D1 ++ (D2 ++ R)) = MS1 ++ nodeMatches (D2 ++ R)) (h2 : nodeMatches (D2 ++ R) = MS2 ++ nodeMatches R)
    (G1 : GoodMatches P MS1) (G2 : GoodMatches P MS2) :
    ∃ MS, nodeMatches ((D1 ++ D2) ++ R) = MS ++ nodeMatches R ∧ GoodMatches P MS :=
  ⟨MS1 ++ MS2, by rw [List.append_assoc, h1, h2, List.append_assoc],
    fun m hm hP => (List.mem_append.mp hm).elim (G1 m · hP) (G2 m · hP)⟩

theorem goodMatches_of_filter {P : Str → Bool} {MS : List (Str × List Str)} {o : Option (Str × List Str)}
    (hF : MS.filter (fun m => P m.1) = o.toList) (h : ∀ m, o = some m → GoodSpan m) : GoodMatches P MS :=
  fun m hm hP => h m (Option.mem_toList.mp (hF ▸ List.mem_filter.mpr ⟨hm, hP⟩))

theorem root_ok {P : Str → Bool} {names : List Str} {addr : List Nat} {v : Val}
    (hall : ∀ e ∈ entries names addr v, e.ok2 = true ∧ e.typed P = true) :
    (⟨addr, names, v.item⟩ : Entry).ok = true ∧ (⟨addr, names, v.item⟩ : Entry).typed P = true := by
  have hroot := hall ⟨addr, names, v.item⟩ (by cases v <;> simp [entries, Val.item])
  exact ⟨Entry.ok_of_ok2 hroot.1, hroot.2⟩

/-- On the dump of a subtree followed by lines `R` that are not under its prefix, the matches starting in the dump
are good: the node case reads the second capture off `findLastPos_entries`, `lastDescMono` puts it in order. -/
theorem nm_all (h : Str → Str) (hh : HashNoEq h) (hn : HashNoNewline h) (P : Str → Bool) :
    (∀ (v : Val) (names : List Str) (addr : List Nat) (R : List Str),
      (∀ e ∈ entries names addr v, e.ok2 = true ∧ e.typed P = true) → namesOkTree v = true →
      lastDescMono names addr v = true → RCond (encNames names) R →
      ∃ MS, nodeMatches (dumpP h (encNames names) (encPath addr) v ++ R) = MS ++ nodeMatches R ∧ GoodMatches P MS) ∧
    (∀ (fs : List (Str × Val)) (names : List Str) (addr : List Nat) (i : Nat) (R : List Str),
      (∀ e ∈ entriesFields names addr i fs, e.ok2 = true ∧ e.typed P = true) →
      (fs.map (·.1)).all fieldNameOk = true → (fs.map (·.1)).Nodup → namesOkFields fs = true →
      lastDescMonoFields names addr i fs = true → RCond (encNames names) R →
      ∃ MS, nodeMatches (dumpPFields h (encNames names) (encPath addr) i fs ++ R) = MS ++ nodeMatches R ∧
        GoodMatches P MS) ∧
    (∀ (xs : List Val) (names : List Str) (addr : List Nat) (i : Nat) (R : List Str),
      (∀ e ∈ entriesItems names addr i xs, e.ok2 = true ∧ e.typed P = true) → namesOkItems xs = true →
      lastDescMonoItems names addr i xs = true → RCond (encNames names) R →
      ∃ MS, nodeMatches (dumpPItems h (encNames names) (encPath addr) i xs ++ R) = MS ++ nodeMatches R ∧
        GoodMatches P MS) := by
  refine Val.induction ?_ ?_ ?_ ?_ ?_ ?_ ?_
  · intro ty isE r ln fs ih names addr R hall hnames hmono hR
    obtain ⟨hok1, hty0⟩ := root_ok hall
    have hpre : '=' ∉ encNames names := Entry.ok_pre hok1
    obtain ⟨hfd, hnf⟩ := Bool.and_eq_true_iff.mp hnames
    obtain ⟨hfn, hnd⟩ := Bool.and_eq_true_iff.mp hfd
    have hnd := of_decide_eq_true hnd
    obtain ⟨hm0, hmf⟩ := Bool.and_eq_true_iff.mp hmono
    have hallF : ∀ e ∈ entriesFields names addr 0 fs, e.ok2 = true ∧ e.typed P = true :=
      fun e he => hall e (by simp [entries, he])
    obtain ⟨MSF, hF, hGF⟩ := ih names addr 0 R hallF hfn hnd hnf hmf hR
    obtain ⟨MS0, h0, hF0⟩ := nodeMatches_entry h hh P ⟨addr, names, .node ty isE r ln⟩ hok1 hty0
      (dumpPFields h (encNames names) (encPath addr) 0 fs ++ R)
    have hdump : dumpP h (encNames names) (encPath addr) (.node ty isE r ln fs) =
        Entry.lines h ⟨addr, names, .node ty isE r ln⟩ ++ dumpPFields h (encNames names) (encPath addr) 0 fs := by
      cases ln <;> simp [dumpP, Entry.lines]
    rw [hdump]
    refine goodMatches_append h0 hF (goodMatches_of_filter hF0 fun m hm => ?_) hGF
    obtain ⟨s, hs, rfl⟩ := Option.map_eq_some_iff.mp hm
    obtain ⟨ty', isE', r', n, hi, rfl⟩ := Entry.posStart_eq_some hs
    simp only [Item.node.injEq] at hi
    -- the second capture: the last positioned strict descendant
    have hunder : ∀ e ∈ entriesFields names addr 0 fs, e.ok2 = true ∧ EntryUnder (encNames names) e := by
      intro e he
      refine ⟨(hallF e he).1, ?_⟩
      obtain ⟨k, n', c, q, ns, w, hk, _, rfl⟩ := (mem_entriesFields_iff names addr 0 e fs).mp he
      have hn' : n' ∈ fs.map (·.1) := List.mem_map.mpr ⟨(n', c), List.mem_of_getElem? hk, rfl⟩
      have hne : n' ≠ [] := (fieldNameOk_iff.mp (List.all_eq_true.mp hfn n' hn')).2
      exact ⟨n' ++ encNames ns, by simp [hne], by simp [encNames_append, encNames]⟩
    have hfl : findLastPos (encNames names) (dumpPFields h (encNames names) (encPath addr) 0 fs ++ R) =
        (lastPosOfEntries (entriesFields names addr 0 fs)).map (fun p => posText p.1 p.2) := by
      rw [dumpPFields_eq_entries]
      exact findLastPos_entries h hn hpre R (findLastPos_none_of_not_under R (fun l hl => (hR l hl).2)) _ hunder
    rw [hi.2.2.2] at hm0
    refine ⟨n, addr, ?_⟩
    show (_ :: (findLastPos _ _).toList) = _ ∨ _
    rw [hfl]
    cases hl : lastPosOfEntries (entriesFields names addr 0 fs) with
    | none => exact .inl rfl
    | some p =>
      rw [hl] at hm0
      exact .inr ⟨p.1, p.2, rfl, by simpa using hm0⟩
  · intro q xs ih names addr R hall hnames hmono hR
    obtain ⟨hok1, hty0⟩ := root_ok hall
    obtain ⟨MSI, hI, hGI⟩ := ih names addr 1 R
      (fun e he => hall e (by simp [entries, he])) hnames hmono hR
    obtain ⟨MS0, h0, hF0⟩ := nodeMatches_entry h hh P ⟨addr, names, .list q xs.length⟩ hok1 hty0
      (dumpPItems h (encNames names) (encPath addr) 1 xs ++ R)
    have hdump : dumpP h (encNames names) (encPath addr) (.list q xs) =
        Entry.lines h ⟨addr, names, .list q xs.length⟩ ++ dumpPItems h (encNames names) (encPath addr) 1 xs := rfl
    rw [hdump]
    exact goodMatches_append h0 hI (goodMatches_of_filter hF0 fun m hm => nomatch hm) hGI
  · intro r k names addr R hall _ _ _
    obtain ⟨hok1, hty0⟩ := root_ok hall
    obtain ⟨MS0, h0, hF0⟩ := nodeMatches_entry h hh P ⟨addr, names, .scalar r⟩ hok1 hty0 R
    exact ⟨MS0, h0, goodMatches_of_filter hF0 fun m hm => nomatch hm⟩
  · exact fun _ _ _ R _ _ _ _ _ _ => ⟨[], rfl, fun m hm => nomatch hm⟩
  · intro n v rest ihv ihr names addr i R hall hfn hnd hnf hmono hR
    simp only [List.map_cons, List.all_cons, Bool.and_eq_true] at hfn
    simp only [List.map_cons, List.nodup_cons] at hnd
    have hnf := Bool.and_eq_true_iff.mp hnf
    have hmono := Bool.and_eq_true_iff.mp hmono
    have hnok := fieldNameOk_iff.mp hfn.1
    obtain ⟨MSr, hr, hGr⟩ := ihr names addr (i + 1) R
      (fun e he => hall e (by simp [entriesFields, he])) hfn.2 hnd.2 hnf.2 hmono.2 hR
    have hR' : RCond (encNames (names ++ [n])) (dumpPFields h (encNames names) (encPath addr) (i + 1) rest ++ R) := by
      rw [← subPre_encNames]
      exact RCond.field h (Or.inl rfl) _ (i + 1) hnok.1
        (List.all_eq_true.mpr fun x hx => (fieldNameOk_iff.mp (List.all_eq_true.mp hfn.2 x hx)).1) hnd.1 hR
    obtain ⟨MSv, hv, hGv⟩ := ihv (names ++ [n]) (addr ++ [i]) _
      (fun e he => hall e (by simp [entriesFields, he])) hnf.1 hmono.1 hR'
    simp only [dumpPFields, subPre_encNames, subPath_encPath]
    exact goodMatches_append hv hr hGv hGr
  · exact fun _ _ _ R _ _ _ _ => ⟨[], rfl, fun m hm => nomatch hm⟩
  · intro v rest ihv ihr names addr i R hall hnf hmono hR
    have hnf := Bool.and_eq_true_iff.mp hnf
    have hmono := Bool.and_eq_true_iff.mp hmono
    obtain ⟨MSr, hr, hGr⟩ := ihr names addr (i + 1) R
      (fun e he => hall e (by simp [entriesItems, he])) hnf.2 hmono.2 hR
    have hR' : RCond (encNames (names ++ [dec i])) (dumpPItems h (encNames names) (encPath addr) (i + 1) rest ++ R) := by
      rw [← subPre_encNames]
      exact RCond.item h _ i rest hR
    obtain ⟨MSv, hv, hGv⟩ := ihv (names ++ [dec i]) (addr ++ [i]) _
      (fun e he => hall e (by simp [entriesItems, he])) hnf.1 hmono.1 hR'
    simp only [dumpPItems, subPre_encNames, subPath_encPath]
    exact goodMatches_append hv hr hGv hGr

theorem nm_fields (h : Str → Str) (hh : HashNoEq h) (hn : HashNoNewline h) (P : Str → Bool) :
    ∀ (fs : List (Str × Val)) (names : List Str) (addr : List Nat) (i : Nat) (R : List Str),
    (∀ e ∈ entriesFields names addr i fs, e.ok2 = true ∧ e.typed P = true) →
    (fs.map (·.1)).all fieldNameOk = true → (fs.map (·.1)).Nodup → namesOkFields fs = true →
    lastDescMonoFields names addr i fs = true → RCond (encNames names) R → '=' ∉ encNames names →
    ∃ MS, nodeMatches (dumpPFields h (encNames names) (encPath addr) i fs ++ R) = MS ++ nodeMatches R ∧
      GoodMatches P MS :=
  fun fs names addr i R hall hfn hnd hnf hmono hR _ => (nm_all h hh hn P).2.1 fs names addr i R hall hfn hnd hnf hmono hR

theorem nm_items (h : Str → Str) (hh : HashNoEq h) (hn : HashNoNewline h) (P : Str → Bool) :
    ∀ (xs : List Val) (names : List Str) (addr : List Nat) (i : Nat) (R : List Str),
    (∀ e ∈ entriesItems names addr i xs, e.ok2 = true ∧ e.typed P = true) → namesOkItems xs = true →
    lastDescMonoItems names addr i xs = true → RCond (encNames names) R → '=' ∉ encNames names →
    ∃ MS, nodeMatches (dumpPItems h (encNames names) (encPath addr) i xs ++ R) = MS ++ nodeMatches R ∧
      GoodMatches P MS :=
  fun xs names addr i R hall hnf hmono hR _ => (nm_all h hh hn P).2.2 xs names addr i R hall hnf hmono hR

end Paroxy.Flat
