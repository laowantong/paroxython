import Paroxy.Model.JsonText

/-!
The JSON text layer (Model/JsonText.lean). A literal written by `dumps2` is printable ASCII. The compaction scanner keeps
the token sequence of every text that lexes, from every lexer state: inside a string literal a match would need a raw
newline after `[`, which `lex` rejects; hence `loads (compact t) = loads t`. The laid-out text of a value `v` lexes to
`toksV v`, which `pVal` parses back to `v`, `decode` inverting `escStr`.
-/

namespace Paroxy.JsonText

theorem hexDigit_plain (n : Nat) : hexDigit n ≠ 34 ∧ hexDigit n ≠ 92 ∧ 32 ≤ hexDigit n ∧ hexDigit n ≤ 126 := by
  unfold hexDigit; split <;> omega

theorem uEsc_printable (u x : Nat) (hx : x ∈ uEsc u) : 32 ≤ x ∧ x ≤ 126 := by
  simp only [uEsc, List.mem_cons, List.not_mem_nil, or_false] at hx
  rcases hx with rfl | rfl | rfl | rfl | rfl | rfl
  · omega
  · omega
  all_goals exact (hexDigit_plain _).2.2

theorem escChar_cases (c : Nat) :
    (∃ l, l ∈ escLetters ∧ l ≠ 117 ∧ simpleEsc l = some c ∧ escChar c = [92, l]) ∨
    (32 ≤ c ∧ c ≤ 126 ∧ c ≠ 34 ∧ c ≠ 92 ∧ escChar c = [c]) ∨
    (c < 65536 ∧ escChar c = uEsc c) ∨
    (65536 ≤ c ∧ escChar c = uEsc (55296 + ((c - 65536) / 1024) % 1024) ++ uEsc (56320 + (c - 65536) % 1024)) := by
  -- the ten branches of `escChar`: seven two-character escapes, then printable, 16-bit, astral
  fun_cases escChar c
  case case8 h1 h2 _ _ _ _ _ hp => exact .inr (.inl ⟨hp.1, hp.2, h1, h2, rfl⟩)
  case case9 hb => exact .inr (.inr (.inl ⟨hb, rfl⟩))
  case case10 hb => exact .inr (.inr (.inr ⟨by omega, rfl⟩))
  all_goals subst c; exact .inl (by decide +kernel)

theorem escChar_printable (c x : Nat) (hx : x ∈ escChar c) : 32 ≤ x ∧ x ≤ 126 := by
  rcases escChar_cases c with ⟨l, hl, _, _, e⟩ | ⟨h1, h2, _, _, e⟩ | ⟨_, e⟩ | ⟨_, e⟩ <;> rw [e] at hx
  · simp only [escLetters, List.mem_cons, List.not_mem_nil, or_false] at hl hx
    omega
  · simp only [List.mem_cons, List.not_mem_nil, or_false] at hx
    omega
  · exact uEsc_printable _ _ hx
  · rcases List.mem_append.1 hx with h | h <;> exact uEsc_printable _ _ h

theorem escStr_printable (s : Str) (x : Nat) (hx : x ∈ escStr s) : 32 ≤ x ∧ x ≤ 126 := by
  fun_induction escStr s with
  | case1 => nomatch hx
  | case2 c s ih => exact (List.mem_append.1 hx).elim (escChar_printable _ _) ih

theorem quote_printable (s : Str) (x : Nat) (hx : x ∈ quote s) : 32 ≤ x ∧ x ≤ 126 := by
  simp only [quote, List.mem_cons, List.mem_append, List.not_mem_nil, or_false] at hx
  rcases hx with rfl | h | rfl
  · omega
  · exact escStr_printable _ _ h
  · omega

def pre (T : List Tok) (o : Option (List Tok)) : Option (List Tok) := o.map (T ++ ·)

@[simp] theorem pre_pre (T1 T2 : List Tok) (o) : pre T1 (pre T2 o) = pre (T1 ++ T2) o := by
  cases o <;> simp [pre]
@[simp] theorem pre_nil (o) : pre [] o = o := by cases o <;> simp [pre]
@[simp] theorem pre_some (T r) : pre T (some r) = some (T ++ r) := rfl
@[simp] theorem pre_none (T) : pre T none = none := rfl

theorem lex_cons (st : St) (c : Nat) (t : Str) :
    lex st (c :: t) = match step st c with
      | none => none
      | some (st', em) => pre em (lex st' t) := by
  cases st <;> rfl

theorem isWs_plain {c : Nat} (h : isWs c = true) : isDigit c = false ∧ c ≠ 34 ∧ c ≠ 92 ∧ c ∉ escLetters :=
  have table : ∀ c ∈ wsList, isDigit c = false ∧ c ≠ 34 ∧ c ≠ 92 ∧ c ∉ escLetters := by decide +kernel
  table c (List.contains_iff_mem.1 h)

theorem isDigit_not_ws {c : Nat} (h : isDigit c = true) : isWs c = false := by
  cases hw : isWs c with
  | false => rfl
  | true => rw [(isWs_plain hw).1] at h; cases h

theorem stepOut_digit {c : Nat} (h : isDigit c = true) : stepOut c = some (.num [c], []) := by
  have hr : 48 ≤ c ∧ c ≤ 57 := by simpa [isDigit] using h
  have hne : c ≠ 91 ∧ c ≠ 93 ∧ c ≠ 123 ∧ c ≠ 125 ∧ c ≠ 44 ∧ c ≠ 58 ∧ c ≠ 34 := by omega
  simp [stepOut, isDigit_not_ws h, h, hne]

theorem lex_out_ws {c : Nat} (h : isWs c = true) (t : Str) : lex .out (c :: t) = lex .out t := by
  rw [lex_cons]; simp [step, stepOut, h]

theorem lex_out_skipWs (t : Str) : lex .out (skipWs t) = lex .out t := by
  fun_induction skipWs t with
  | case1 => rfl
  | case2 c t h ih => rw [ih, lex_out_ws h]
  | case3 c t h => rfl

theorem lex_num_digit {c : Nat} (h : isDigit c = true) (acc t : Str) :
    lex (.num acc) (c :: t) = lex (.num (acc ++ [c])) t := by
  rw [lex_cons]; simp [step, h]

theorem lex_num_nondigit {c : Nat} (hc : isDigit c = false) (acc t : Str) :
    lex (.num acc) (c :: t) = pre [Tok.num acc] (lex .out (c :: t)) := by
  rw [lex_cons, lex_cons]
  simp only [step, hc]
  cases stepOut c with
  | none => simp
  | some p => cases p; simp

theorem lex_num_span (t : Str) : ∀ acc, lex (.num acc) t =
    pre [Tok.num (acc ++ (spanDigits t).1)] (lex .out (spanDigits t).2) := by
  fun_induction spanDigits t with
  | case1 => intro acc; simp [lex]
  | case2 c t h ih => intro acc; rw [lex_num_digit h, ih]; simp
  | case3 c t h => intro acc; rw [lex_num_nondigit (by simpa using h)]; simp

theorem lex_out_span (t : Str) (h : (spanDigits t).1 ≠ []) :
    lex .out t = pre [Tok.num (spanDigits t).1] (lex .out (spanDigits t).2) := by
  revert h
  fun_cases spanDigits t
  case case2 c t hd =>
    intro _
    rw [lex_cons]
    simp [step, stepOut_digit hd, lex_num_span]
  all_goals exact fun h => absurd rfl h

theorem spanDigits_eq (t : Str) : spanDigits t = (t.takeWhile isDigit, t.dropWhile isDigit) := by
  fun_induction spanDigits t with
  | case1 => rfl
  | case2 c t h ih => simp [h, ih]
  | case3 c t h => simp [h]

theorem spanDigits_split (t : Str) : (spanDigits t).1 ++ (spanDigits t).2 = t := by
  simp [spanDigits_eq]

theorem spanDigits_fst_digits (t : Str) : ∀ d ∈ (spanDigits t).1, isDigit d = true := by
  rw [spanDigits_eq]
  exact List.all_eq_true.1 List.all_takeWhile

theorem spanDigits_append (ds : Str) (h : ∀ d ∈ ds, isDigit d = true) (c : Nat) (hc : isDigit c = false) (y : Str) :
    spanDigits (ds ++ c :: y) = (ds, c :: y) := by
  simp [spanDigits_eq, List.takeWhile_append_of_pos h, List.dropWhile_append_of_pos h, hc]

theorem lex_out_digits (ds : Str) (hne : ds ≠ []) (h : ∀ d ∈ ds, isDigit d = true) (c : Nat) (hc : isDigit c = false)
    (y : Str) : lex .out (ds ++ c :: y) = pre [Tok.num ds] (lex .out (c :: y)) := by
  have hs := spanDigits_append ds h c hc y
  have := lex_out_span (ds ++ c :: y) (by rw [hs]; exact hne)
  rw [this, hs]

theorem lex_out_lb (t : Str) : lex .out (91 :: t) = pre [Tok.lb] (lex .out t) := by
  rw [lex_cons]; rfl
theorem lex_out_rb (t : Str) : lex .out (93 :: t) = pre [Tok.rb] (lex .out t) := by
  rw [lex_cons]; rfl
theorem lex_out_comma (t : Str) : lex .out (44 :: t) = pre [Tok.comma] (lex .out t) := by
  rw [lex_cons]; rfl
theorem lex_out_lc (t : Str) : lex .out (123 :: t) = pre [Tok.lc] (lex .out t) := by
  rw [lex_cons]; rfl
theorem lex_out_rc (t : Str) : lex .out (125 :: t) = pre [Tok.rc] (lex .out t) := by
  rw [lex_cons]; rfl
theorem lex_out_colon (t : Str) : lex .out (58 :: t) = pre [Tok.colon] (lex .out t) := by
  rw [lex_cons]; rfl
theorem lex_out_nl (t : Str) : lex .out (10 :: t) = lex .out t := lex_out_ws (by decide) t

theorem optComma_lex (t : Str) : lex .out t = pre ((optComma t).1.map fun _ => Tok.comma) (lex .out (optComma t).2) := by
  unfold optComma
  split
  · simp [lex_out_comma]
  · simp

/-- A successful match attempt, read off the pattern from left to right. -/
theorem matchAt_some {t r rest : Str} (h : matchAt t = some (r, rest)) :
    ∃ t2 t5 t8 t10 w t12, skipWs t = 91 :: 10 :: t2 ∧
      (spanDigits (skipWs t2)).1 ≠ [] ∧ (spanDigits (skipWs t2)).2 = 44 :: 10 :: t5 ∧
      (spanDigits (skipWs t5)).1 ≠ [] ∧ (spanDigits (skipWs t5)).2 = 10 :: t8 ∧
      skipWs t8 = 93 :: t10 ∧ (optComma t10).2 = w :: t12 ∧ isWs w = true ∧
      r = 91 :: ((spanDigits (skipWs t2)).1 ++ 44 :: ((spanDigits (skipWs t5)).1 ++ 93 :: (optComma t10).1)) ∧
      rest = skipWs t12 := by
  revert h
  -- of the nine branches of `matchAt` only the third returns `some`
  fun_cases matchAt t
  case case3 t2 h0 d1 hd1 t5 h1 d2 hd2 t8 h2 t10 h3 cm w t12 h4 hw =>
    intro h
    obtain ⟨rfl, rfl⟩ := Prod.mk.inj (Option.some.inj h)
    exact ⟨t2, t5, t8, t10, w, t12, h0, hd1, h1, hd2, h2, h3, h4, hw, rfl, rfl⟩
  all_goals nofun

/-- A match, seen by the lexer in its `out` state: the matched text and its replacement are the same tokens. -/
theorem matchAt_lex {t r rest : Str} (h : matchAt t = some (r, rest)) :
    (∃ y, r = 91 :: y) ∧ ∃ T, lex .out t = pre T (lex .out rest) ∧ ∀ x, lex .out (r ++ x) = pre T (lex .out x) := by
  obtain ⟨t2, t5, t8, t10, w, t12, h0, hd1, h1, hd2, h2, h3, h4, hw, rfl, rfl⟩ := matchAt_some h
  refine ⟨⟨_, rfl⟩, [Tok.lb, Tok.num (spanDigits (skipWs t2)).1, Tok.comma, Tok.num (spanDigits (skipWs t5)).1, Tok.rb]
    ++ (optComma t10).1.map (fun _ => Tok.comma), ?_, ?_⟩
  · rw [← lex_out_skipWs t, h0, lex_out_lb, lex_out_nl, ← lex_out_skipWs t2, lex_out_span _ hd1, h1,
      lex_out_comma, lex_out_nl, ← lex_out_skipWs t5, lex_out_span _ hd2, h2, lex_out_nl,
      ← lex_out_skipWs t8, h3, lex_out_rb, optComma_lex t10, h4, lex_out_ws hw, ← lex_out_skipWs t12]
    simp
  · intro x
    simp only [List.cons_append, List.append_assoc]
    rw [lex_out_lb, lex_out_digits _ hd1 (spanDigits_fst_digits _) 44 (by decide), lex_out_comma,
      lex_out_digits _ hd2 (spanDigits_fst_digits _) 93 (by decide), lex_out_rb]
    unfold optComma
    split <;> simp [lex_out_comma]

/-- inside a string literal no match can start: the lexer rejects the raw newline that must follow `[`. -/
theorem lex_str_none (t : Str) : ∀ (acc t2 : Str), skipWs t = 91 :: 10 :: t2 → lex (.str acc) t = none := by
  fun_induction skipWs t with
  | case1 => nofun
  | case2 c t hw ih =>
    intro acc t2 h
    obtain ⟨_, h1, h2, _⟩ := isWs_plain hw
    rw [lex_cons]
    by_cases h3 : c < 32
    · simp [step, h1, h2, h3]
    · simp [step, h1, h2, h3, ih _ _ h]
  | case3 c t hw =>
    intro acc t2 h
    cases h
    simp [lex_cons, step]

theorem lex_esc_none (t : Str) (acc t2 : Str) (h : skipWs t = 91 :: t2) : lex (.esc acc) t = none := by
  revert h
  fun_cases skipWs t
  case case1 => nofun
  case case2 c t hw => intro _; simp [lex_cons, step, (isWs_plain hw).2.2.2]
  case case3 c t hw =>
    intro h
    cases h
    simp [lex_cons, step, escLetters]

theorem lex_compactF : ∀ (n : Nat) (t : Str) (st : St) (toks : List Tok),
    lex st t = some toks → lex st (compactF n t) = some toks := by
  intro n t
  fun_induction compactF n t with
  | case1 t => exact fun _ _ h => h
  | case2 n _ => exact fun _ _ h => h
  | case3 n c t r rest hm ih =>
    intro st toks h
    obtain ⟨⟨y, hy⟩, T, hT1, hT2⟩ := matchAt_lex hm
    obtain ⟨t2, _, _, _, _, _, hs, _⟩ := matchAt_some hm
    cases st with
    | out =>
      rw [hT1] at h
      obtain ⟨q, hq, rfl⟩ := Option.map_eq_some_iff.1 h
      rw [hT2, ih _ _ hq]; rfl
    | num acc =>
      have hc : isDigit c = false := by
        unfold skipWs at hs
        split at hs
        · rename_i hw; exact (isWs_plain hw).1
        · injection hs with hc; subst hc; decide
      rw [lex_num_nondigit hc, hT1, pre_pre] at h
      obtain ⟨q, hq, rfl⟩ := Option.map_eq_some_iff.1 h
      rw [hy, List.cons_append, lex_num_nondigit (by decide), ← List.cons_append, ← hy, hT2, ih _ _ hq]
      rfl
    | str acc => rw [lex_str_none _ _ _ hs] at h; cases h
    | esc acc => rw [lex_esc_none _ _ _ hs] at h; cases h
  | case4 n c t hm ih =>
    intro st toks h
    rw [lex_cons] at h ⊢
    cases hs : step st c with
    | none => rw [hs] at h; cases h
    | some p =>
      obtain ⟨st', em⟩ := p
      rw [hs] at h
      simp only at h ⊢
      obtain ⟨q, hq, rfl⟩ := Option.map_eq_some_iff.1 h
      rw [ih _ _ hq]; rfl

theorem lex_compact (t : Str) (st : St) (toks : List Tok) (h : lex st t = some toks) :
    lex st (compact t) = some toks := lex_compactF _ _ _ _ h

theorem loads_compact (t : Str) (v : J) (h : loads t = some v) : loads (compact t) = some v := by
  obtain ⟨toks, hl, hp⟩ := Option.bind_eq_some_iff.1 h
  exact Option.bind_eq_some_iff.2 ⟨toks, lex_compact _ _ _ hl, hp⟩

def noWs (t : Str) : Str := t.filter fun c => !isWs c

theorem noWs_cons_ws {c : Nat} (h : isWs c = true) (t : Str) : noWs (c :: t) = noWs t := by
  simp [noWs, h]
theorem noWs_cons_nws {c : Nat} (h : isWs c = false) (t : Str) : noWs (c :: t) = c :: noWs t := by
  simp [noWs, h]
theorem noWs_append (a b : Str) : noWs (a ++ b) = noWs a ++ noWs b := by simp [noWs]

theorem noWs_skipWs (t : Str) : noWs (skipWs t) = noWs t := by
  fun_induction skipWs t with
  | case1 => rfl
  | case2 c t h ih => rw [ih, noWs_cons_ws h]
  | case3 c t h => rfl

theorem noWs_span (t : Str) : noWs t = noWs (spanDigits t).1 ++ noWs (spanDigits t).2 := by
  rw [← noWs_append, spanDigits_split]

theorem noWs_optComma (t : Str) : noWs t = noWs (optComma t).1 ++ noWs (optComma t).2 := by
  rw [← noWs_append]
  unfold optComma
  split <;> rfl

/-- a match deletes white space only: without white space, the matched text and its replacement are the same. -/
theorem matchAt_noWs {t r rest : Str} (h : matchAt t = some (r, rest)) : noWs t = noWs r ++ noWs rest := by
  obtain ⟨t2, t5, t8, t10, w, t12, h0, _, h1, _, h2, h3, h4, hw, rfl, rfl⟩ := matchAt_some h
  rw [← noWs_skipWs t, h0, noWs_cons_nws (by decide), noWs_cons_ws (by decide), ← noWs_skipWs t2,
    noWs_span (skipWs t2), h1, noWs_cons_nws (by decide), noWs_cons_ws (by decide), ← noWs_skipWs t5,
    noWs_span (skipWs t5), h2, noWs_cons_ws (by decide), ← noWs_skipWs t8, h3,
    noWs_cons_nws (by decide), noWs_optComma t10, h4, noWs_cons_ws hw, noWs_skipWs t12,
    noWs_cons_nws (by decide), noWs_append, noWs_cons_nws (by decide), noWs_append, noWs_cons_nws (by decide)]
  simp

theorem noWs_compactF (n : Nat) (t : Str) : noWs (compactF n t) = noWs t := by
  fun_induction compactF n t with
  | case1 t => rfl
  | case2 n _ => rfl
  | case3 n c t r rest hm ih => rw [noWs_append, ih, matchAt_noWs hm]
  | case4 n c t hm ih =>
    simp only [noWs, List.filter_cons] at ih ⊢
    rw [ih]

theorem skipWs_length (t : Str) : (skipWs t).length ≤ t.length := by
  fun_induction skipWs t with
  | case1 => exact Nat.le_refl _
  | case2 c t h ih => exact Nat.le_succ_of_le ih
  | case3 c t h => exact Nat.le_refl _

theorem matchAt_length {t r rest : Str} (h : matchAt t = some (r, rest)) : rest.length < t.length := by
  obtain ⟨t2, t5, t8, t10, w, t12, h0, _, h1, _, h2, h3, h4, _, _, rfl⟩ := matchAt_some h
  have a0 := skipWs_length t
  have a1 := skipWs_length t2
  have span : ∀ s : Str, (spanDigits s).2.length ≤ s.length := fun s => by
    have := congrArg List.length (spanDigits_split s)
    simp only [List.length_append] at this
    omega
  have a2 := span (skipWs t2)
  have a3 := skipWs_length t5
  have a4 := span (skipWs t5)
  have a5 := skipWs_length t8
  have a6 : (optComma t10).2.length ≤ t10.length := by unfold optComma; split <;> simp
  have a7 := skipWs_length t12
  rw [h0] at a0; rw [h1] at a2; rw [h2] at a4; rw [h3] at a5; rw [h4] at a6
  simp only [List.length_cons] at a0 a2 a4 a5 a6
  omega

theorem compactF_succ (n : Nat) (t : Str) (h : t.length ≤ n) : compactF (n + 1) t = compactF n t := by
  fun_induction compactF n t with
  | case1 t => cases t with
    | nil => rfl
    | cons => simp at h
  | case2 n _ => rfl
  | case3 n c t r rest hm ih =>
    have := matchAt_length hm
    simp only [List.length_cons] at h this
    simp only [compactF, hm, ih (by omega)]
  | case4 n c t hm ih =>
    simp only [List.length_cons] at h
    simp only [compactF, hm, ih (by omega)]

theorem compactF_eq_compact (n : Nat) (t : Str) (h : t.length ≤ n) : compactF n t = compact t := by
  induction h with
  | refl => rfl
  | step h ih => rw [compactF_succ _ t h, ih]

mutual
def toksV : J → List Tok
  | .num n => [.num (natDigits n)]
  | .str s => [.str (escStr s)]
  | .arr [] => [.lb, .rb]
  | .arr (x :: xs) => .lb :: (toksItems (x :: xs) ++ [.rb])
  | .obj [] => [.lc, .rc]
  | .obj (kv :: kvs) => .lc :: (toksMembers (kv :: kvs) ++ [.rc])
def toksItems : List J → List Tok
  | [] => []
  | [x] => toksV x
  | x :: y :: xs => toksV x ++ .comma :: toksItems (y :: xs)
def toksMembers : List (Str × J) → List Tok
  | [] => []
  | [(k, v)] => .str (escStr k) :: .colon :: toksV v
  | (k, v) :: kv :: kvs => .str (escStr k) :: .colon :: (toksV v ++ .comma :: toksMembers (kv :: kvs))
end

theorem natDigits_ne_nil (n : Nat) : natDigits n ≠ [] := by
  simp [natDigits, Nat.toDigits_ne_nil]

theorem natDigits_digits (n : Nat) : ∀ d ∈ natDigits n, isDigit d = true := by
  intro d hd
  simp only [natDigits, List.mem_map] at hd
  obtain ⟨c, hc, rfl⟩ := hd
  have := Nat.isDigit_of_mem_toDigits (by decide) (by decide) hc
  simp only [Char.isDigit, Bool.and_eq_true, decide_eq_true_eq, ge_iff_le] at this
  obtain ⟨a, b⟩ := this
  have a' := UInt32.le_iff_toNat_le.1 a
  have b' := UInt32.le_iff_toNat_le.1 b
  simp only [isDigit, Bool.and_eq_true, decide_eq_true_eq]
  exact ⟨a', b'⟩

theorem lex_out_nlind (ind : Nat) (x : Str) : lex .out (10 :: (List.replicate ind 32 ++ x)) = lex .out x := by
  rw [lex_out_nl]
  induction ind with
  | zero => rfl
  | succ k ih => rw [List.replicate_succ, List.cons_append, lex_out_ws (by decide), ih]

theorem lex_str_plain {c : Nat} (h1 : c ≠ 34) (h2 : c ≠ 92) (h3 : 32 ≤ c) (acc y : Str) :
    lex (.str acc) (c :: y) = lex (.str (acc ++ [c])) y := by
  rw [lex_cons]; simp [step, h1, h2, show ¬ c < 32 by omega]

theorem lex_str_esc {l : Nat} (h : l ∈ escLetters) (acc y : Str) :
    lex (.str acc) (92 :: l :: y) = lex (.str (acc ++ [92, l])) y := by
  rw [lex_cons]; simp only [step]; simp [lex_cons, step, h]

theorem lex_str_uEsc (u : Nat) (acc y : Str) : lex (.str acc) (uEsc u ++ y) = lex (.str (acc ++ uEsc u)) y := by
  have hex : ∀ (n : Nat) (acc y : Str), lex (.str acc) (hexDigit n :: y) = lex (.str (acc ++ [hexDigit n])) y :=
    fun n => lex_str_plain (hexDigit_plain n).1 (hexDigit_plain n).2.1 (hexDigit_plain n).2.2.1
  simp only [uEsc, List.cons_append, List.nil_append]
  rw [lex_str_esc (by decide), hex, hex, hex, hex]
  simp

theorem lex_str_escChar (c : Nat) (acc y : Str) : lex (.str acc) (escChar c ++ y) = lex (.str (acc ++ escChar c)) y := by
  rcases escChar_cases c with ⟨l, hl, _, _, e⟩ | ⟨h1, _, h3, h4, e⟩ | ⟨_, e⟩ | ⟨_, e⟩ <;> rw [e]
  · exact lex_str_esc hl acc y
  · exact lex_str_plain h3 h4 h1 acc y
  · exact lex_str_uEsc _ acc y
  · rw [List.append_assoc, lex_str_uEsc, lex_str_uEsc, List.append_assoc]

theorem lex_str_escStr (s : Str) : ∀ (acc y : Str),
    lex (.str acc) (escStr s ++ 34 :: y) = pre [Tok.str (acc ++ escStr s)] (lex .out y) := by
  induction s with
  | nil => intro acc y; simp [escStr, lex_cons, step]
  | cons c s ih =>
    intro acc y
    simp only [escStr, List.append_assoc]
    rw [lex_str_escChar, ih, List.append_assoc]

theorem lex_out_quote (s y : Str) : lex .out (quote s ++ y) = pre [Tok.str (escStr s)] (lex .out y) := by
  unfold quote
  rw [List.cons_append, lex_cons]
  simp only [step, stepOut]
  simp [isWs, wsList, lex_str_escStr]

attribute [local simp] nl lex_out_lb lex_out_rb lex_out_lc lex_out_rc lex_out_comma lex_out_colon lex_out_nlind
  lex_out_quote

mutual
/-- the text of a value, followed by something that does not start with a digit, lexes to the tokens of the value. -/
theorem lex_dumpsV : ∀ (v : J) (ind c : Nat) (y : Str), isDigit c = false →
    lex .out (dumpsV ind v ++ c :: y) = pre (toksV v) (lex .out (c :: y))
  | .num n, ind, c, y, hc => lex_out_digits _ (natDigits_ne_nil n) (natDigits_digits n) c hc y
  | .str s, ind, c, y, hc => lex_out_quote s _
  | .arr [], ind, c, y, hc => by simp [dumpsV, toksV]
  | .arr (x :: xs), ind, c, y, hc => by
    simp [dumpsV, toksV, lex_dumpsItems (x :: xs) (ind + 2) 10 _ (by decide)]
  | .obj [], ind, c, y, hc => by simp [dumpsV, toksV]
  | .obj (kv :: kvs), ind, c, y, hc => by
    simp [dumpsV, toksV, lex_dumpsMembers (kv :: kvs) (ind + 2) 10 _ (by decide)]
theorem lex_dumpsItems : ∀ (l : List J) (ind c : Nat) (y : Str), isDigit c = false →
    lex .out (dumpsItems ind l ++ c :: y) = pre (toksItems l) (lex .out (c :: y))
  | [], ind, c, y, hc => by simp [dumpsItems, toksItems]
  | [x], ind, c, y, hc => by simp [dumpsItems, toksItems, lex_dumpsV x ind c y hc]
  | x :: x' :: xs, ind, c, y, hc => by
    simp [dumpsItems, toksItems, lex_dumpsV x ind 44 _ (by decide), lex_dumpsItems (x' :: xs) ind c y hc]
theorem lex_dumpsMembers : ∀ (l : List (Str × J)) (ind c : Nat) (y : Str), isDigit c = false →
    lex .out (dumpsMembers ind l ++ c :: y) = pre (toksMembers l) (lex .out (c :: y))
  | [], ind, c, y, hc => by simp [dumpsMembers, toksMembers]
  | [(k, v)], ind, c, y, hc => by
    simp [dumpsMembers, toksMembers, lex_out_ws (c := 32) (by decide), lex_dumpsV v ind c y hc]
  | (k, v) :: kv :: kvs, ind, c, y, hc => by
    simp [dumpsMembers, toksMembers, lex_out_ws (c := 32) (by decide), lex_dumpsV v ind 44 _ (by decide),
      lex_dumpsMembers (kv :: kvs) ind c y hc]
end

theorem lex_dumps2 (v : J) : lex .out (dumps2 v ++ [10]) = some (toksV v) := by
  rw [dumps2, lex_dumpsV v 0 10 [] (by decide), lex_out_nl]
  simp [lex]

theorem lex_getJsonText (v : J) : lex .out (getJsonText v) = some (toksV v) :=
  lex_compact _ _ _ (lex_dumps2 v)

theorem digitsVal_map (l : List Char) : ∀ acc, digitsVal (l.map Char.toNat) acc = Nat.ofDigitChars 10 l acc := by
  induction l with
  | nil => intro acc; rfl
  | cons c l ih =>
    intro acc
    simp only [List.map_cons, digitsVal, ih, Nat.ofDigitChars, List.foldl_cons]
    congr 1
    have : '0'.toNat = 48 := by decide
    rw [this, Nat.mul_comm]

theorem toDigits_head_ne_zero : ∀ (n : Nat), 0 < n → ∀ c rest, Nat.toDigits 10 n = c :: rest → c.toNat ≠ 48 := by
  intro n
  induction n using Nat.strongRecOn with
  | _ n ih =>
    intro hn c rest h
    by_cases hlt : n < 10
    · rw [Nat.toDigits_of_lt_base hlt] at h
      injection h with h _
      rw [← h, Nat.toNat_digitChar_of_lt_ten hlt]
      omega
    · have hb : 10 ≤ n := by omega
      rw [Nat.toDigits_of_base_le (by decide) hb] at h
      cases h0 : Nat.toDigits 10 (n / 10) with
      | nil => exact absurd h0 Nat.toDigits_ne_nil
      | cons c0 r0 =>
        rw [h0] at h
        injection h with h _
        rw [← h]
        exact ih (n / 10) (by omega) (by omega) c0 r0 h0

theorem numOf_natDigits (n : Nat) : numOf (natDigits n) = some n := by
  have hv : digitsVal (natDigits n) 0 = n := by
    rw [natDigits, digitsVal_map, Nat.ofDigitChars_toDigits (by decide) (by decide)]
  unfold numOf
  split
  · rename_i h; exact absurd h (natDigits_ne_nil n)
  · rename_i x y h
    exfalso
    have hn : 0 < n := by
      cases n with
      | zero => simp [natDigits, Nat.toDigits_zero] at h
      | succ k => omega
    cases h0 : Nat.toDigits 10 n with
    | nil => exact absurd h0 Nat.toDigits_ne_nil
    | cons c r =>
      simp only [natDigits, h0, List.map_cons, List.cons.injEq] at h
      exact toDigits_head_ne_zero n hn c r h0 h.1
  · rw [hv]

/-- `\uXXXX`/escape decoding inverts `escStr` on strings without a surrogate pair (proved below: `decodeEsc`). -/
def DecodeEsc : Prop := ∀ s : Str, strOk s = true → decode (escStr s) = some s

theorem hexVal_hexDigit (k : Nat) : hexVal (hexDigit k) = some (k % 16) :=
  have table : ∀ r < 16, hexVal (if r < 10 then 48 + r else 87 + r) = some r := by decide +kernel
  table (k % 16) (Nat.mod_lt _ (by decide))

theorem hex4_uEsc (u : Nat) (h : u < 65536) :
    hex4 (hexDigit (u / 4096)) (hexDigit (u / 256)) (hexDigit (u / 16)) (hexDigit u) = some u := by
  simp only [hex4, hexVal_hexDigit]
  congr 1
  -- `omega` is much quicker when the three quotients are given as iterated divisions by 16
  have e1 : u / 256 = u / 16 / 16 := by rw [Nat.div_div_eq_div_mul]
  have e2 : u / 4096 = u / 16 / 16 / 16 := by rw [Nat.div_div_eq_div_mul, Nat.div_div_eq_div_mul]
  rw [e1, e2]
  omega

theorem decodeF_plain {c : Nat} (h : c ≠ 92) (n : Nat) (rest : Str) :
    decodeF (n + 1) (c :: rest) = (decodeF n rest).map (c :: ·) := by
  rw [decodeF]
  all_goals simp_all

theorem decodeF_simple {l x : Nat} (hl : l ≠ 117) (h : simpleEsc l = some x) (n : Nat) (rest : Str) :
    decodeF (n + 1) (92 :: l :: rest) = (decodeF n rest).map (x :: ·) := by
  rw [decodeF]
  all_goals simp_all

/-- the text does not start with the escape of a low surrogate (and if it starts with `\u`, four hex digits follow). -/
def NoLowEsc (rest : Str) : Prop :=
  ∀ e f g h r, rest = 92 :: 117 :: e :: f :: g :: h :: r →
    ∃ u2, hex4 e f g h = some u2 ∧ ¬(56320 ≤ u2 ∧ u2 ≤ 57343)

theorem decodeF_uEsc (u : Nat) (hu : u < 65536) (n : Nat) (rest : Str)
    (h : 55296 ≤ u ∧ u ≤ 56319 → NoLowEsc rest) :
    decodeF (n + 1) (uEsc u ++ rest) = (decodeF n rest).map (u :: ·) := by
  simp only [uEsc, List.cons_append, List.nil_append]
  rw [decodeF]
  simp only [hex4_uEsc u hu]
  split
  · rename_i hh
    split
    · rename_i e f g h' r
      obtain ⟨u2, h2, h3⟩ := h hh e f g h' r rfl
      simp only [h2]
      rw [if_neg h3]
    · rfl
  · rfl

theorem decodeF_pair {hi lo : Nat} (hhi : 55296 ≤ hi ∧ hi ≤ 56319) (hlo : 56320 ≤ lo ∧ lo ≤ 57343) (n : Nat) (rest : Str) :
    decodeF (n + 1) (uEsc hi ++ (uEsc lo ++ rest)) =
      (decodeF n rest).map ((65536 + (hi - 55296) * 1024 + (lo - 56320)) :: ·) := by
  simp only [uEsc, List.cons_append, List.nil_append]
  rw [decodeF]
  simp only [hex4_uEsc hi (by omega), hex4_uEsc lo (by omega)]
  rw [if_pos hhi, if_pos hlo]

theorem noLowEsc_uEsc {u : Nat} (hu : u < 65536) (hlow : ¬(56320 ≤ u ∧ u ≤ 57343)) (rest : Str) :
    NoLowEsc (uEsc u ++ rest) := by
  intro e f g h r heq
  simp only [uEsc, List.cons_append, List.nil_append, List.cons.injEq, true_and] at heq
  obtain ⟨rfl, rfl, rfl, rfl, _⟩ := heq
  exact ⟨u, hex4_uEsc u hu, hlow⟩

theorem noLowEsc_escStr {b : Nat} (hb : ¬(56320 ≤ b ∧ b ≤ 57343)) (t : Str) : NoLowEsc (escStr (b :: t)) := by
  rw [escStr]
  rcases escChar_cases b with ⟨l, _, hl, _, eq⟩ | ⟨_, _, _, h92, eq⟩ | ⟨hlt, eq⟩ | ⟨_, eq⟩ <;> rw [eq]
  · intro e f g h' r heq
    exact absurd (by injection heq with _ heq; injection heq) hl
  · intro e f g h' r heq
    exact absurd (by injection heq) h92
  · exact noLowEsc_uEsc hlt hb _
  · rw [List.append_assoc]
    exact noLowEsc_uEsc (by omega) (by omega) _

theorem decodeF_escChar (c : Nat) (hlt : c < 1114112) (m : Nat) (rest : Str)
    (h : 55296 ≤ c ∧ c ≤ 56319 → NoLowEsc rest) :
    decodeF (m + 1) (escChar c ++ rest) = (decodeF m rest).map (c :: ·) := by
  rcases escChar_cases c with ⟨l, _, hl, hs, e⟩ | ⟨_, _, _, h92, e⟩ | ⟨hb, e⟩ | ⟨ha, e⟩ <;> rw [e]
  · exact decodeF_simple hl hs m rest
  · exact decodeF_plain h92 m rest
  · exact decodeF_uEsc c hb m rest h
  · rw [List.append_assoc, decodeF_pair (by omega) (by omega)]
    exact congrArg (fun a => (decodeF m rest).map (a :: ·)) (by omega)

theorem decodeF_escStr : ∀ (s : Str), strOk s = true → ∀ n, (escStr s).length ≤ n → decodeF n (escStr s) = some s := by
  intro s
  induction s with
  | nil => intro _ n _; cases n <;> simp [escStr, decodeF]
  | cons c s ih =>
    intro hok n hlen
    obtain ⟨hlt, hs, hpair⟩ : c < 1114112 ∧ strOk s = true ∧ (55296 ≤ c ∧ c ≤ 56319 → NoLowEsc (escStr s)) := by
      cases s with
      | nil => exact ⟨by simpa [strOk] using hok, rfl, fun _ _ _ _ _ _ h => nomatch h⟩
      | cons b t =>
        simp only [strOk, Bool.and_eq_true, Bool.not_eq_true', Bool.and_eq_false_iff, decide_eq_true_eq,
          decide_eq_false_iff_not] at hok
        exact ⟨hok.1.2, hok.2, fun hh => noLowEsc_escStr (by omega) t⟩
    simp only [escStr, List.length_append] at hlen ⊢
    have hpos : 0 < (escChar c).length := by
      rcases escChar_cases c with ⟨_, _, _, _, e⟩ | ⟨_, _, _, _, e⟩ | ⟨_, e⟩ | ⟨_, e⟩ <;> rw [e] <;> simp [uEsc]
    obtain ⟨m, rfl⟩ : ∃ m, n = m + 1 := ⟨n - 1, by omega⟩
    rw [decodeF_escChar c hlt m _ hpair, ih hs m (by omega)]
    rfl

theorem decodeEsc : DecodeEsc := fun s hok => decodeF_escStr s hok _ (Nat.le_refl _)

theorem toksV_head (v : J) : ∃ h tl, toksV v = h :: tl ∧ h ≠ Tok.rb := by
  rcases v with _ | _ | (_ | _) | (_ | _)
  all_goals rw [toksV]; exact ⟨_, _, rfl, nofun⟩

theorem pVal_lb {h : Tok} (hne : h ≠ Tok.rb) (n : Nat) (r : List Tok) :
    pVal (n + 1) (.lb :: h :: r) = (pItems n (h :: r)).map fun p => (J.arr p.1, p.2) := by
  cases h <;> simp_all [pVal]

theorem toksItems_head (x : J) (xs : List J) : ∃ h tl, toksItems (x :: xs) = h :: tl ∧ h ≠ Tok.rb := by
  obtain ⟨h, tl, e, h1⟩ := toksV_head x
  cases xs
  all_goals rw [toksItems, e]; exact ⟨h, _, rfl, h1⟩

mutual
theorem pVal_toksV (hs : DecodeEsc) : ∀ (v : J) (n : Nat) (rest : List Tok), J.ok v = true →
    (toksV v).length ≤ n → pVal n (toksV v ++ rest) = some (v, rest)
  | v, 0, rest, hok, hlen => by
    obtain ⟨h, tl, e, _⟩ := toksV_head v
    rw [e] at hlen; simp at hlen
  | .num k, n + 1, rest, hok, hlen => by simp [toksV, pVal, numOf_natDigits k]
  | .str s, n + 1, rest, hok, hlen => by
    simp only [J.ok] at hok
    simp [toksV, pVal, hs s hok]
  | .arr [], n + 1, rest, hok, hlen => by simp [toksV, pVal]
  | .arr (x :: xs), n + 1, rest, hok, hlen => by
    simp only [J.ok] at hok
    simp only [toksV, List.length_cons, List.length_append, List.length_nil] at hlen
    obtain ⟨h, tl, e, h1⟩ := toksItems_head x xs
    have := pItems_toks hs (x :: xs) n rest (by simp) hok (by omega)
    simp only [toksV, List.cons_append, List.append_assoc, List.nil_append]
    rw [e] at this ⊢
    rw [List.cons_append, pVal_lb h1, ← List.cons_append, this]
    rfl
  | .obj [], n + 1, rest, hok, hlen => by simp [toksV, pVal]
  | .obj ((k, v) :: kvs), n + 1, rest, hok, hlen => by
    simp only [J.ok] at hok
    simp only [toksV, List.length_cons, List.length_append, List.length_nil] at hlen
    have := pMembers_toks hs ((k, v) :: kvs) n rest (by simp) hok (by omega)
    simp only [toksV, List.cons_append, List.append_assoc, List.nil_append]
    cases kvs
    all_goals
      simp only [toksMembers, List.cons_append] at this ⊢
      simp only [pVal, this]; rfl
theorem pItems_toks (hs : DecodeEsc) : ∀ (l : List J) (n : Nat) (rest : List Tok), l ≠ [] →
    J.okList l = true → (toksItems l).length + 1 ≤ n → pItems n (toksItems l ++ Tok.rb :: rest) = some (l, rest)
  | [], _, _, hne, _, _ => absurd rfl hne
  | _, 0, _, _, _, hlen => by omega
  | [x], n + 1, rest, _, hok, hlen => by
    simp only [J.okList, Bool.and_true] at hok
    simp only [toksItems] at hlen
    simp [toksItems, pItems, pVal_toksV hs x n (Tok.rb :: rest) hok (by omega)]
  | x :: y :: xs, n + 1, rest, _, hok, hlen => by
    rw [J.okList, Bool.and_eq_true] at hok
    simp only [toksItems, List.length_append, List.length_cons] at hlen
    simp [toksItems, pItems, pVal_toksV hs x n _ hok.1 (by omega),
      pItems_toks hs (y :: xs) n rest (by simp) hok.2 (by omega)]
theorem pMembers_toks (hs : DecodeEsc) : ∀ (l : List (Str × J)) (n : Nat) (rest : List Tok), l ≠ [] →
    J.okMembers l = true → (toksMembers l).length + 1 ≤ n →
    pMembers n (toksMembers l ++ Tok.rc :: rest) = some (l, rest)
  | [], _, _, hne, _, _ => absurd rfl hne
  | _, 0, _, _, _, hlen => by omega
  | [(k, v)], n + 1, rest, _, hok, hlen => by
    simp only [J.okMembers, Bool.and_true, Bool.and_eq_true] at hok
    simp only [toksMembers, List.length_cons] at hlen
    simp [toksMembers, pMembers, hs k hok.1, pVal_toksV hs v n (Tok.rc :: rest) hok.2 (by omega)]
  | (k, v) :: kv :: kvs, n + 1, rest, _, hok, hlen => by
    rw [J.okMembers, Bool.and_eq_true, Bool.and_eq_true] at hok
    simp only [toksMembers, List.length_append, List.length_cons] at hlen
    simp [toksMembers, pMembers, hs k hok.1.1, pVal_toksV hs v n _ hok.1.2 (by omega),
      pMembers_toks hs (kv :: kvs) n rest (by simp) hok.2 (by omega)]
end

theorem parseToks_toksV (v : J) (hok : J.ok v = true) : parseToks (toksV v) = some v := by
  unfold parseToks
  have := pVal_toksV decodeEsc v ((toksV v).length + 1) [] hok (by omega)
  rw [List.append_nil] at this
  rw [this]

mutual
theorem J.beq_refl : ∀ v : J, J.beq v v = true
  | .num _ => by simp [J.beq]
  | .str _ => by simp [J.beq]
  | .arr l => by simp [J.beq, J.beqList_refl l]
  | .obj l => by simp [J.beq, J.beqMembers_refl l]
theorem J.beqList_refl : ∀ l : List J, J.beqList l l = true
  | [] => by simp [J.beqList]
  | x :: xs => by simp [J.beqList, J.beq_refl x, J.beqList_refl xs]
theorem J.beqMembers_refl : ∀ l : List (Str × J), J.beqMembers l l = true
  | [] => by simp [J.beqMembers]
  | (k, x) :: xs => by simp [J.beqMembers, J.beq_refl x, J.beqMembers_refl xs]
end

end Paroxy.JsonText
