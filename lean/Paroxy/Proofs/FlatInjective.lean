/-
The context-free dump text (`dumpNoCtx` = `remove_context("", ast.dump(node))`) is
injective on well-formed trees (`wfDump`), up to what it does not print (`eraseCtx`).

Method: direct structural induction on the two trees, with a continuation. A value is always followed, in a
dump, by the end of the text or by one of `,` `)` `]` (`stopB`); under that hypothesis
`dumpNoCtx v1 ++ s1 = dumpNoCtx v2 ++ s2` forces `v1`, `v2` to have the same shape and `s1 = s2`
(prefix-freeness). The workhorse is `span_unique`: a delimiter-free word followed by a delimiter (or the end)
is determined by the text.
-/
import Paroxy.Spec.FlatDump
import Paroxy.Proofs.FlatCtx
namespace Paroxy.Flat

/-- What can follow a value in a dump: nothing, or `,` `)` `]`. -/
def stopB : Str → Bool
  | [] => true
  | c :: _ => c == ',' || c == ')' || c == ']'

def stopD : Str → Bool
  | [] => true
  | c :: _ => isDelimC c

theorem stopD_of_stopB {s : Str} (h : stopB s = true) : stopD s = true := by
  cases s with
  | nil => rfl
  | cons c t =>
    simp only [stopB, Bool.or_eq_true, beq_iff_eq] at h
    rcases h with (h | h) | h <;> subst h <;> rfl

/-- A delimiter-free word followed by a delimiter (or the end) is the longest delimiter-free prefix of the text. -/
theorem takeWhile_word {a x : Str} (ha : delimFree a = true) (hx : stopD x = true) :
    (a ++ x).takeWhile (fun c => !isDelimC c) = a := by
  rw [List.takeWhile_append_of_pos (List.all_eq_true.mp ha)]
  cases x with
  | nil => exact List.append_nil a
  | cons c t => rw [List.takeWhile_cons_of_neg (by rw [show isDelimC c = true from hx]; decide), List.append_nil]

theorem span_unique : ∀ {a b x y : Str}, delimFree a = true → delimFree b = true → stopD x = true →
    stopD y = true → a ++ x = b ++ y → a = b ∧ x = y := by
  intro a b x y ha hb hx hy h
  have e := congrArg (List.takeWhile fun c => !isDelimC c) h
  rw [takeWhile_word ha hx, takeWhile_word hb hy] at e
  subst e
  exact ⟨rfl, List.append_cancel_left h⟩

theorem eq_of_isQuote {q : Char} (h : isQuote q = true) : q = '\'' ∨ q = '"' := by
  simpa [isQuote] using h

theorem isQuote_ne_backslash {q : Char} (h : isQuote q = true) : (q == '\\') = false := by
  rcases eq_of_isQuote h with rfl | rfl <;> rfl

theorem escScan_head {q c : Char} {t : Str} (hq : (q == '\\') = false) (h : escScan q false (c :: t) = true) :
    c ≠ q := by
  rintro rfl
  rw [escScan, if_neg Bool.false_ne_true, hq, if_neg Bool.false_ne_true, bne_self_eq_false] at h
  cases h

theorem escScan_step {q c : Char} {e : Bool} {t1 t2 : Str} (h1 : escScan q e (c :: t1) = true)
    (h2 : escScan q e (c :: t2) = true) : ∃ e', escScan q e' t1 = true ∧ escScan q e' t2 = true := by
  rw [escScan] at h1 h2
  cases e with
  | true => exact ⟨false, h1, h2⟩
  | false =>
    rw [if_neg Bool.false_ne_true] at h1 h2
    cases hc : c == '\\' <;> rw [hc] at h1 h2
    · exact ⟨false, (Bool.and_eq_true_iff.mp h1).2, (Bool.and_eq_true_iff.mp h2).2⟩
    · exact ⟨true, h1, h2⟩

/-- The closing quote of a literal is determined by the text: the first unescaped occurrence of the quote. -/
theorem escScan_cancel (q : Char) (hq : (q == '\\') = false) : ∀ (b1 b2 : Str) (e : Bool) (s1 s2 : Str),
    escScan q e b1 = true → escScan q e b2 = true → b1 ++ q :: s1 = b2 ++ q :: s2 → b1 = b2 ∧ s1 = s2 := by
  intro b1
  induction b1 with
  | nil =>
    intro b2 e s1 s2 h1 h2 h
    cases b2 with
    | nil => exact ⟨rfl, List.tail_eq_of_cons_eq h⟩
    | cons c t =>
      cases e with
      | true => cases h1
      | false => exact absurd (List.head_eq_of_cons_eq h).symm (escScan_head hq h2)
  | cons c t1 ih =>
    intro b2 e s1 s2 h1 h2 h
    cases b2 with
    | nil =>
      cases e with
      | true => cases h2
      | false => exact absurd (List.head_eq_of_cons_eq h) (escScan_head hq h1)
    | cons d t2 =>
      obtain ⟨rfl, h'⟩ := List.cons.inj h
      obtain ⟨e', h1', h2'⟩ := escScan_step h1 h2
      obtain ⟨rfl, r2⟩ := ih t2 e' s1 s2 h1' h2' h'
      exact ⟨rfl, r2⟩

/-- A quoted tail: nothing, or `q body q` with a well-escaped body. -/
def QTail (tail : Str) : Prop :=
  tail = [] ∨ ∃ q body, tail = q :: (body ++ [q]) ∧ isQuote q = true ∧ escScan q false body = true

/-- A terminal repr is a delimiter-free word followed by a quoted tail (word = the whole token, or empty, or
the `b` of a bytes literal). -/
def ScalarForm (r : Str) : Prop := r ≠ [] ∧ ∃ w tail, r = w ++ tail ∧ delimFree w = true ∧ QTail tail

theorem qtail_of_quotedFrom {r : Str} (h : quotedFrom r = true) : r ≠ [] ∧ QTail r := by
  cases r with
  | nil => simp [quotedFrom] at h
  | cons q rest =>
    simp only [quotedFrom, Bool.and_eq_true, beq_iff_eq] at h
    refine ⟨by simp, Or.inr ⟨q, rest.dropLast, ?_, h.1.1, h.2⟩⟩
    obtain ⟨ys, hys⟩ := List.getLast?_eq_some_iff.mp h.1.2
    rw [hys]; simp

theorem scalarForm_of_wfScalar {r : Str} (h : wfScalar r = true) : ScalarForm r := by
  simp only [wfScalar, Bool.or_eq_true, Bool.and_eq_true, Bool.not_eq_true'] at h
  rcases h with (h | h) | h
  · refine ⟨?_, r, [], by simp, h.2, Or.inl rfl⟩
    intro e; subst e; simp at h
  · exact ⟨(qtail_of_quotedFrom h).1, [], r, rfl, rfl, (qtail_of_quotedFrom h).2⟩
  · cases r with
    | nil => simp at h
    | cons c t =>
      simp only [Bool.and_eq_true, beq_iff_eq] at h
      obtain ⟨rfl, h⟩ := h
      exact ⟨by simp, ['b'], t, rfl, by decide, (qtail_of_quotedFrom h).2⟩

theorem stopD_qtail {tail s : Str} (ht : QTail tail) (hs : stopB s = true) : stopD (tail ++ s) = true := by
  rcases ht with rfl | ⟨q, body, rfl, hq, -⟩
  · exact stopD_of_stopB hs
  · rcases eq_of_isQuote hq with rfl | rfl <;> rfl

theorem not_stop_of_quote {q : Char} {t : Str} (hq : isQuote q = true) : stopB (q :: t) = false := by
  rcases eq_of_isQuote hq with rfl | rfl <;> rfl

/-- A word followed by a non-quote delimiter, read against a scalar followed by a stop: the scalar is the
word. -/
theorem scalar_vs_word {r s a A : Str} {c : Char} (hr : ScalarForm r) (hs : stopB s = true)
    (ha : delimFree a = true) (hc : isDelimC c = true) (hcq : isQuote c = false)
    (h : a ++ c :: A = r ++ s) : r = a ∧ s = c :: A := by
  obtain ⟨-, w, tail, rfl, hw, ht⟩ := hr
  rw [List.append_assoc] at h
  obtain ⟨rfl, h2⟩ := span_unique ha hw (x := c :: A) (by simpa [stopD] using hc) (stopD_qtail ht hs) h
  rcases ht with rfl | ⟨q, body, rfl, hq, -⟩
  · simpa using h2.symm
  · simp only [List.cons_append, List.cons.injEq] at h2
    rw [h2.1, hq] at hcq; cases hcq

theorem scalar_cancel {r1 r2 s1 s2 : Str} (h1 : ScalarForm r1) (h2 : ScalarForm r2) (hs1 : stopB s1 = true)
    (hs2 : stopB s2 = true) (h : r1 ++ s1 = r2 ++ s2) : r1 = r2 ∧ s1 = s2 := by
  obtain ⟨-, w1, t1, rfl, hw1, ht1⟩ := h1
  obtain ⟨-, w2, t2, rfl, hw2, ht2⟩ := h2
  rw [List.append_assoc, List.append_assoc] at h
  obtain ⟨rfl, h'⟩ := span_unique hw1 hw2 (stopD_qtail ht1 hs1) (stopD_qtail ht2 hs2) h
  rcases ht1 with rfl | ⟨q1, b1, rfl, hq1, he1⟩ <;> rcases ht2 with rfl | ⟨q2, b2, rfl, hq2, he2⟩
  · exact ⟨rfl, by simpa using h'⟩
  · simp only [List.nil_append, List.cons_append] at h'
    subst h'
    rw [not_stop_of_quote hq2] at hs1; cases hs1
  · simp only [List.nil_append, List.cons_append] at h'
    subst h'
    rw [not_stop_of_quote hq1] at hs2; cases hs2
  · simp only [List.cons_append, List.append_assoc, List.nil_append, List.cons.injEq] at h'
    obtain ⟨rfl, h'⟩ := h'
    obtain ⟨rfl, rfl⟩ := escScan_cancel q1 (isQuote_ne_backslash hq1) b1 b2 false s1 s2 he1 he2 h'
    exact ⟨rfl, rfl⟩

theorem droppedField_eraseCtx (ty n : Str) (v : Val) : droppedField ty n (eraseCtx v) = droppedField ty n v := by
  cases v <;> rfl

theorem dumpNoCtxFields_cons (ty : Str) (first : Bool) (n : Str) (v : Val) (rest : List (Str × Val)) :
    dumpNoCtxFields ty first ((n, v) :: rest) =
      if droppedField ty n v then dumpNoCtxFields ty first rest
      else (if first then [] else cs!", ") ++ n ++ '=' :: dumpNoCtx v ++ dumpNoCtxFields ty false rest := rfl

mutual
/-- No field of the tree is one that the dump drops. -/
def cleanE : Val → Bool
  | .node ty _ _ _ fs => cleanEFields ty fs
  | .list _ xs => cleanEItems xs
  | .scalar _ _ => true
def cleanEFields (ty : Str) : List (Str × Val) → Bool
  | [] => true
  | (n, v) :: rest => !droppedField ty n v && cleanE v && cleanEFields ty rest
def cleanEItems : List Val → Bool
  | [] => true
  | v :: rest => cleanE v && cleanEItems rest
end

/-- Erasing the fields the dump does not print changes neither the dump nor well-formedness, and leaves no such
field. -/
theorem eraseCtx_all :
    (∀ v, dumpNoCtx (eraseCtx v) = dumpNoCtx v ∧ cleanE (eraseCtx v) = true ∧
      (wfDump v = true → wfDump (eraseCtx v) = true)) ∧
    (∀ fs ty,
      (∀ first, dumpNoCtxFields ty first (eraseCtxFields ty fs) = dumpNoCtxFields ty first fs) ∧
      cleanEFields ty (eraseCtxFields ty fs) = true ∧
      (wfDumpFields fs = true → wfDumpFields (eraseCtxFields ty fs) = true)) ∧
    (∀ xs,
      (∀ first, dumpNoCtxItems first (eraseCtxItems xs) = dumpNoCtxItems first xs) ∧
      cleanEItems (eraseCtxItems xs) = true ∧
      (wfDumpItems xs = true → wfDumpItems (eraseCtxItems xs) = true)) := by
  refine Val.induction ?_ ?_ ?_ ?_ ?_ ?_ ?_
  · intro ty e r ln fs ih
    obtain ⟨h1, h2, h3⟩ := ih ty
    exact ⟨congrArg (fun X => ty ++ '(' :: X ++ [')']) (h1 true), h2, fun hw =>
      Bool.and_eq_true_iff.mpr ⟨(Bool.and_eq_true_iff.mp hw).1, h3 (Bool.and_eq_true_iff.mp hw).2⟩⟩
  · exact fun q xs ⟨h1, h2, h3⟩ => ⟨congrArg (fun X => '[' :: X ++ [']']) (h1 true), h2, h3⟩
  · exact fun r k => ⟨rfl, rfl, id⟩
  · exact fun ty => ⟨fun _ => rfl, rfl, id⟩
  · intro n v rest hv hr ty
    obtain ⟨v1, v2, v3⟩ := hv
    obtain ⟨r1, r2, r3⟩ := hr ty
    have he : eraseCtxFields ty ((n, v) :: rest) =
        if droppedField ty n v then eraseCtxFields ty rest else (n, eraseCtx v) :: eraseCtxFields ty rest := rfl
    cases hd : droppedField ty n v with
    | true =>
      rw [he, hd, if_pos rfl]
      refine ⟨fun first => ?_, r2, fun hw => r3 (Bool.and_eq_true_iff.mp hw).2⟩
      rw [dumpNoCtxFields_cons ty first n v, hd, if_pos rfl]
      exact r1 first
    | false =>
      rw [he, hd, if_neg Bool.false_ne_true]
      refine ⟨fun first => ?_, ?_, fun hw => ?_⟩
      · rw [dumpNoCtxFields_cons, dumpNoCtxFields_cons, droppedField_eraseCtx, hd, v1, r1 false]; rfl
      · rw [cleanEFields, droppedField_eraseCtx, hd, v2, r2]; rfl
      · obtain ⟨hnv, hrest⟩ := Bool.and_eq_true_iff.mp hw
        obtain ⟨hn, hv⟩ := Bool.and_eq_true_iff.mp hnv
        exact Bool.and_eq_true_iff.mpr ⟨Bool.and_eq_true_iff.mpr ⟨hn, v3 hv⟩, r3 hrest⟩
  · exact ⟨fun _ => rfl, rfl, id⟩
  · intro v rest ⟨v1, v2, v3⟩ ⟨r1, r2, r3⟩
    refine ⟨fun first => ?_, Bool.and_eq_true_iff.mpr ⟨v2, r2⟩, fun hw =>
      Bool.and_eq_true_iff.mpr ⟨v3 (Bool.and_eq_true_iff.mp hw).1, r3 (Bool.and_eq_true_iff.mp hw).2⟩⟩
    show _ ++ dumpNoCtx (eraseCtx v) ++ dumpNoCtxItems false (eraseCtxItems rest) = _
    rw [v1, r1 false]; rfl

theorem dumpNoCtx_eraseCtx : ∀ v : Val, dumpNoCtx (eraseCtx v) = dumpNoCtx v :=
  fun v => (eraseCtx_all.1 v).1
theorem dumpNoCtxFields_eraseCtx (ty : Str) : ∀ (first : Bool) (fs : List (Str × Val)),
    dumpNoCtxFields ty first (eraseCtxFields ty fs) = dumpNoCtxFields ty first fs :=
  fun first fs => (eraseCtx_all.2.1 fs ty).1 first
theorem dumpNoCtxItems_eraseCtx : ∀ (first : Bool) (xs : List Val),
    dumpNoCtxItems first (eraseCtxItems xs) = dumpNoCtxItems first xs :=
  fun first xs => (eraseCtx_all.2.2 xs).1 first

theorem cleanE_eraseCtx : ∀ v : Val, cleanE (eraseCtx v) = true :=
  fun v => (eraseCtx_all.1 v).2.1
theorem cleanEFields_eraseCtx (ty : Str) : ∀ fs : List (Str × Val), cleanEFields ty (eraseCtxFields ty fs) = true :=
  fun fs => (eraseCtx_all.2.1 fs ty).2.1
theorem cleanEItems_eraseCtx : ∀ xs : List Val, cleanEItems (eraseCtxItems xs) = true :=
  fun xs => (eraseCtx_all.2.2 xs).2.1

theorem wfDump_eraseCtx : ∀ v : Val, wfDump v = true → wfDump (eraseCtx v) = true :=
  fun v => (eraseCtx_all.1 v).2.2
theorem wfDumpFields_eraseCtx (ty : Str) : ∀ fs : List (Str × Val), wfDumpFields fs = true →
    wfDumpFields (eraseCtxFields ty fs) = true :=
  fun fs => (eraseCtx_all.2.1 fs ty).2.2
theorem wfDumpItems_eraseCtx : ∀ xs : List Val, wfDumpItems xs = true → wfDumpItems (eraseCtxItems xs) = true :=
  fun xs => (eraseCtx_all.2.2 xs).2.2

theorem dumpNoCtx_node_append (ty : Str) (e : Bool) (r : Str) (ln : Option Nat) (fs : List (Str × Val)) (s : Str) :
    dumpNoCtx (.node ty e r ln fs) ++ s = ty ++ '(' :: (dumpNoCtxFields ty true fs ++ ')' :: s) := by
  simp [dumpNoCtx]

theorem dumpNoCtx_list_append (q : Bool) (xs : List Val) (s : Str) :
    dumpNoCtx (.list q xs) ++ s = '[' :: (dumpNoCtxItems true xs ++ ']' :: s) := by
  simp [dumpNoCtx]

theorem stopB_fields (ty : Str) (s : Str) : ∀ fs : List (Str × Val),
    stopB (dumpNoCtxFields ty false fs ++ ')' :: s) = true
  | [] => rfl
  | (n, v) :: rest => by
    rw [dumpNoCtxFields_cons]
    split
    · exact stopB_fields ty s rest
    · rfl

theorem stopB_items (s : Str) : ∀ xs : List Val, stopB (dumpNoCtxItems false xs ++ ']' :: s) = true
  | [] => rfl
  | _ :: _ => rfl

/-- A word followed by an opening bracket is not a scalar followed by a stop. -/
theorem scalar_not_open {r s a A : Str} {c : Char} (hr : wfScalar r = true) (hs : stopB s = true)
    (ha : delimFree a = true) (hc : c = '(' ∨ c = '[') (h : a ++ c :: A = r ++ s) : False := by
  have := (scalar_vs_word (scalarForm_of_wfScalar hr) hs ha (by rcases hc with rfl | rfl <;> rfl)
    (by rcases hc with rfl | rfl <;> rfl) h).2
  rw [this] at hs
  rcases hc with rfl | rfl <;> cases hs

/-- The dump of a well-formed value does not start with `]`. -/
theorem dump_not_close (v : Val) (Y s : Str) (hw : wfDump v = true) (hY : stopB Y = true)
    (h : dumpNoCtx v ++ Y = ']' :: s) : False := by
  cases v with
  | node ty e r ln fs =>
    rw [dumpNoCtx_node_append] at h
    have := (span_unique (b := []) (y := ']' :: s) (Bool.and_eq_true_iff.mp hw).1 rfl rfl rfl h).2
    cases this
  | list q xs => cases h
  | scalar r k =>
    have hf := scalarForm_of_wfScalar hw
    exact hf.1 (scalar_vs_word (a := []) (c := ']') (A := s) hf hY rfl rfl rfl h.symm).1

/-- A field list that starts with a printed field does not start with `)`. -/
theorem fields_not_close {ty n : Str} {v : Val} {rest : List (Str × Val)} (first : Bool) {Y s : Str}
    (hn : delimFree n = true) (hd : droppedField ty n v = false)
    (h : dumpNoCtxFields ty first ((n, v) :: rest) ++ Y = ')' :: s) : False := by
  rw [dumpNoCtxFields_cons, hd, if_neg Bool.false_ne_true] at h
  cases first with
  | true =>
    rw [if_pos rfl, List.nil_append, List.append_assoc, List.append_assoc] at h
    have := (span_unique (b := []) (y := ')' :: s) hn rfl rfl rfl h).2
    cases this
  | false => cases h

/-- Reading a dump against another one, value by value: followed by a stop, two well-formed values without
dropped fields that print the same text up to there have the same shape, and the rests agree. -/
theorem dump_inj_all :
    (∀ v1 v2 s1 s2, wfDump v1 = true → wfDump v2 = true →
      cleanE v1 = true → cleanE v2 = true → stopB s1 = true → stopB s2 = true →
      dumpNoCtx v1 ++ s1 = dumpNoCtx v2 ++ s2 → sameShape v1 v2 = true ∧ s1 = s2) ∧
    (∀ f1 f2 ty first s1 s2,
      wfDumpFields f1 = true → wfDumpFields f2 = true → cleanEFields ty f1 = true → cleanEFields ty f2 = true →
      dumpNoCtxFields ty first f1 ++ ')' :: s1 = dumpNoCtxFields ty first f2 ++ ')' :: s2 →
      sameShapeFields f1 f2 = true ∧ s1 = s2) ∧
    (∀ x1 x2 first s1 s2,
      wfDumpItems x1 = true → wfDumpItems x2 = true → cleanEItems x1 = true → cleanEItems x2 = true →
      dumpNoCtxItems first x1 ++ ']' :: s1 = dumpNoCtxItems first x2 ++ ']' :: s2 →
      sameShapeItems x1 x2 = true ∧ s1 = s2) := by
  refine Val.induction ?_ ?_ ?_ ?_ ?_ ?_ ?_
  · intro t1 _ _ _ f1 ih v2 s1 s2 w1 w2 c1 c2 hs1 hs2 h
    obtain ⟨wt1, wf1⟩ := Bool.and_eq_true_iff.mp w1
    rw [dumpNoCtx_node_append] at h
    cases v2 with
    | node t2 _ _ _ f2 =>
      obtain ⟨wt2, wf2⟩ := Bool.and_eq_true_iff.mp w2
      rw [dumpNoCtx_node_append] at h
      obtain ⟨rfl, h'⟩ := span_unique wt1 wt2 (x := '(' :: _) (y := '(' :: _) rfl rfl h
      obtain ⟨r1, r2⟩ := ih f2 t1 true s1 s2 wf1 wf2 c1 c2 (List.tail_eq_of_cons_eq h')
      exact ⟨Bool.and_eq_true_iff.mpr ⟨beq_self_eq_true _, r1⟩, r2⟩
    | list _ x2 =>
      rw [dumpNoCtx_list_append] at h
      have := (span_unique (b := []) (x := '(' :: _) (y := '[' :: _) wt1 rfl rfl rfl h).2
      cases this
    | scalar r2 _ => exact (scalar_not_open w2 hs2 wt1 (.inl rfl) h).elim
  · intro _ x1 ih v2 s1 s2 w1 w2 c1 c2 hs1 hs2 h
    rw [dumpNoCtx_list_append] at h
    cases v2 with
    | node t2 _ _ _ f2 =>
      rw [dumpNoCtx_node_append] at h
      have := (span_unique (b := []) (x := '(' :: _) (y := '[' :: _) (Bool.and_eq_true_iff.mp w2).1 rfl rfl rfl
        h.symm).2
      cases this
    | list _ x2 =>
      rw [dumpNoCtx_list_append] at h
      exact ih x2 true s1 s2 w1 w2 c1 c2 (List.tail_eq_of_cons_eq h)
    | scalar r2 _ => exact (scalar_not_open (a := []) w2 hs2 rfl (.inr rfl) h).elim
  · intro r1 _ v2 s1 s2 w1 w2 _ _ hs1 hs2 h
    cases v2 with
    | node t2 _ _ _ f2 =>
      rw [dumpNoCtx_node_append] at h
      exact (scalar_not_open w1 hs1 (Bool.and_eq_true_iff.mp w2).1 (.inl rfl) h.symm).elim
    | list _ x2 =>
      rw [dumpNoCtx_list_append] at h
      exact (scalar_not_open (a := []) w1 hs1 rfl (.inr rfl) h.symm).elim
    | scalar r2 _ =>
      obtain ⟨rfl, rfl⟩ := scalar_cancel (scalarForm_of_wfScalar w1) (scalarForm_of_wfScalar w2) hs1 hs2 h
      exact ⟨beq_self_eq_true _, rfl⟩
  · intro f2 ty first s1 s2 _ w2 _ c2 h
    cases f2 with
    | nil => exact ⟨rfl, List.tail_eq_of_cons_eq h⟩
    | cons p r2 =>
      simp only [wfDumpFields, cleanEFields, Bool.and_eq_true, Bool.not_eq_true'] at w2 c2
      exact (fields_not_close first w2.1.1 c2.1.1 h.symm).elim
  · intro n1 v1 r1 hv hr f2 ty first s1 s2 w1 w2 c1 c2 h
    simp only [wfDumpFields, cleanEFields, Bool.and_eq_true, Bool.not_eq_true'] at w1 c1
    cases f2 with
    | nil => exact (fields_not_close first w1.1.1 c1.1.1 h).elim
    | cons p r2 =>
      obtain ⟨n2, v2⟩ := p
      simp only [wfDumpFields, cleanEFields, Bool.and_eq_true, Bool.not_eq_true'] at w2 c2
      rw [dumpNoCtxFields_cons, dumpNoCtxFields_cons, c1.1.1, c2.1.1, if_neg Bool.false_ne_true,
        if_neg Bool.false_ne_true] at h
      simp only [List.append_assoc, List.cons_append] at h
      have h := List.append_cancel_left h
      obtain ⟨rfl, h'⟩ := span_unique w1.1.1 w2.1.1 (x := '=' :: _) (y := '=' :: _) rfl rfl h
      obtain ⟨a1, a2⟩ := hv v2 _ _ w1.1.2 w2.1.2 c1.1.2 c2.1.2 (stopB_fields ty s1 r1)
        (stopB_fields ty s2 r2) (List.tail_eq_of_cons_eq h')
      obtain ⟨b1, b2⟩ := hr r2 ty false s1 s2 w1.2 w2.2 c1.2 c2.2 a2
      exact ⟨by simp [sameShapeFields, a1, b1], b2⟩
  · intro x2 first s1 s2 _ w2 _ _ h
    cases x2 with
    | nil => exact ⟨rfl, List.tail_eq_of_cons_eq h⟩
    | cons v r2 =>
      cases first with
      | true =>
        exact (dump_not_close v _ s1 (Bool.and_eq_true_iff.mp w2).1 (stopB_items s2 r2)
          ((List.append_assoc ..).symm.trans h.symm)).elim
      | false => cases h
  · intro v1 r1 hv hr x2 first s1 s2 w1 w2 c1 c2 h
    obtain ⟨wv1, wr1⟩ := Bool.and_eq_true_iff.mp w1
    obtain ⟨cv1, cr1⟩ := Bool.and_eq_true_iff.mp c1
    cases x2 with
    | nil =>
      cases first with
      | true => exact (dump_not_close v1 _ s2 wv1 (stopB_items s1 r1) ((List.append_assoc ..).symm.trans h)).elim
      | false => cases h
    | cons v2 r2 =>
      obtain ⟨wv2, wr2⟩ := Bool.and_eq_true_iff.mp w2
      obtain ⟨cv2, cr2⟩ := Bool.and_eq_true_iff.mp c2
      simp only [dumpNoCtxItems, List.append_assoc] at h
      obtain ⟨a1, a2⟩ := hv v2 _ _ wv1 wv2 cv1 cv2 (stopB_items s1 r1) (stopB_items s2 r2)
        (List.append_cancel_left h)
      obtain ⟨b1, b2⟩ := hr r2 false s1 s2 wr1 wr2 cr1 cr2 a2
      exact ⟨Bool.and_eq_true_iff.mpr ⟨a1, b1⟩, b2⟩

theorem dump_inj : ∀ (v1 v2 : Val) (s1 s2 : Str), wfDump v1 = true → wfDump v2 = true →
    cleanE v1 = true → cleanE v2 = true → stopB s1 = true → stopB s2 = true →
    dumpNoCtx v1 ++ s1 = dumpNoCtx v2 ++ s2 → sameShape v1 v2 = true ∧ s1 = s2 :=
  dump_inj_all.1

theorem dumpFields_inj (ty : Str) : ∀ (first : Bool) (f1 f2 : List (Str × Val)) (s1 s2 : Str),
    wfDumpFields f1 = true → wfDumpFields f2 = true → cleanEFields ty f1 = true → cleanEFields ty f2 = true →
    dumpNoCtxFields ty first f1 ++ ')' :: s1 = dumpNoCtxFields ty first f2 ++ ')' :: s2 →
    sameShapeFields f1 f2 = true ∧ s1 = s2 :=
  fun first f1 f2 => dump_inj_all.2.1 f1 f2 ty first

theorem dumpItems_inj : ∀ (first : Bool) (x1 x2 : List Val) (s1 s2 : Str),
    wfDumpItems x1 = true → wfDumpItems x2 = true → cleanEItems x1 = true → cleanEItems x2 = true →
    dumpNoCtxItems first x1 ++ ']' :: s1 = dumpNoCtxItems first x2 ++ ']' :: s2 →
    sameShapeItems x1 x2 = true ∧ s1 = s2 :=
  fun first x1 x2 => dump_inj_all.2.2 x1 x2 first

/-- The context-free dump is injective on well-formed trees, up to the fields it does not print. -/
theorem dumpNoCtx_injective {t1 t2 : Val} (w1 : wfDump t1 = true) (w2 : wfDump t2 = true)
    (h : dumpNoCtx t1 = dumpNoCtx t2) : sameExpr t1 t2 = true := by
  have h' : dumpNoCtx (eraseCtx t1) ++ [] = dumpNoCtx (eraseCtx t2) ++ [] := by
    rw [dumpNoCtx_eraseCtx, dumpNoCtx_eraseCtx, h]
  exact (dump_inj _ _ [] [] (wfDump_eraseCtx t1 w1) (wfDump_eraseCtx t2 w2) (cleanE_eraseCtx t1)
    (cleanE_eraseCtx t2) rfl rfl h').1

/-- The easy direction, for every tree. -/
theorem dumpNoCtx_of_sameExpr {t1 t2 : Val} (h : sameExpr t1 t2 = true) : dumpNoCtx t1 = dumpNoCtx t2 := by
  rw [← dumpNoCtx_eraseCtx t1, ← dumpNoCtx_eraseCtx t2]
  exact dumpNoCtx_of_sameShape_all.1 _ _ h

theorem dumpNoCtx_eq_iff {t1 t2 : Val} (w1 : wfDump t1 = true) (w2 : wfDump t2 = true) :
    dumpNoCtx t1 = dumpNoCtx t2 ↔ sameExpr t1 t2 = true :=
  ⟨dumpNoCtx_injective w1 w2, dumpNoCtx_of_sameExpr⟩

theorem wfDump_of_at {v w : Val} {q : List Nat} {ns : List Str} (h : At v q ns w) :
    wfDump v = true → wfDump w = true :=
  h.descendB (g := fun f => delimFree f.1 && wfDump f.2) (fun hv => (Bool.and_eq_true_iff.mp hv).2)
    (fun _ _ => rfl) (fun hf => (Bool.and_eq_true_iff.mp hf).2) id (fun _ _ => rfl)

theorem names_eraseCtxFields_sublist (ty : Str) : ∀ fs : List (Str × Val),
    ((eraseCtxFields ty fs).map Prod.fst).Sublist (fs.map Prod.fst)
  | [] => .slnil
  | (n, v) :: rest => by
    rw [eraseCtxFields]
    split
    · exact .cons _ (names_eraseCtxFields_sublist ty rest)
    · exact .cons_cons _ (names_eraseCtxFields_sublist ty rest)

theorem sameShapeFields_names : ∀ {E1 E2 : List (Str × Val)}, sameShapeFields E1 E2 = true →
    E1.map Prod.fst = E2.map Prod.fst
  | [], [], _ => rfl
  | (n1, _) :: E1, (n2, _) :: E2, h => by
    obtain ⟨h1, h2⟩ := Bool.and_eq_true_iff.mp h
    rw [List.map_cons, List.map_cons, beq_iff_eq.mp (Bool.and_eq_true_iff.mp h1).1, sameShapeFields_names h2]
  | [], _ :: _, h | _ :: _, [], h => nomatch h

theorem eq_of_isNoneScalar {v : Val} (h : isNoneScalar v = true) : ∃ k, v = .scalar cs!"None" k := by
  cases v with
  | scalar r k => exact ⟨k, by rw [beq_iff_eq.mp h]⟩
  | _ => nomatch h

/-- When the two field lists carry the same distinct names, a field cannot be erased on one side only: what it
faces would be a later field, of another name. So both are erased (two `None`) or both are kept. -/
theorem stripShape_of_eraseShape_all (sch : List (Str × List Str)) :
    (∀ a b, conforms sch a = true → conforms sch b = true →
      sameShape (eraseCtx a) (eraseCtx b) = true → sameShape (stripCtx a) (stripCtx b) = true) ∧
    (∀ f1 f2 ty, f1.map Prod.fst = f2.map Prod.fst →
      nodupB (f1.map Prod.fst) = true → conformsFields sch f1 = true → conformsFields sch f2 = true →
      sameShapeFields (eraseCtxFields ty f1) (eraseCtxFields ty f2) = true →
      sameShapeFields (stripCtxFields f1) (stripCtxFields f2) = true) ∧
    (∀ x1 x2, conformsItems sch x1 = true → conformsItems sch x2 = true →
      sameShapeItems (eraseCtxItems x1) (eraseCtxItems x2) = true →
      sameShapeItems (stripCtxItems x1) (stripCtxItems x2) = true) := by
  refine Val.induction ?_ ?_ ?_ ?_ ?_ ?_ ?_
  · intro t1 _ _ _ f1 ih b c1 c2 h
    cases b with
    | node t2 _ _ _ f2 =>
      obtain ⟨ht, hf⟩ := Bool.and_eq_true_iff.mp h
      obtain rfl := beq_iff_eq.mp ht
      simp only [conforms, Bool.and_eq_true, beq_iff_eq] at c1 c2
      exact Bool.and_eq_true_iff.mpr ⟨ht, ih f2 t1 (c1.1.1.trans c2.1.1.symm) c1.1.2 c1.2 c2.2 hf⟩
    | _ => nomatch h
  · intro _ x1 ih b c1 c2 h
    cases b with
    | list _ x2 => exact ih x2 c1 c2 h
    | _ => nomatch h
  · intro r1 _ b _ _ h
    cases b with
    | scalar r2 _ => exact h
    | _ => nomatch h
  · intro f2 ty hn _ _ _ _
    cases f2 with
    | nil => rfl
    | cons => nomatch hn
  · intro n1 v1 r1 hv hr f2 ty hn hnd c1 c2 h
    cases f2 with
    | nil => nomatch hn
    | cons p r2 =>
      obtain ⟨n2, v2⟩ := p
      obtain ⟨rfl, hnr⟩ : n1 = n2 ∧ r1.map Prod.fst = r2.map Prod.fst := List.cons.inj hn
      simp only [List.map_cons, nodupB, Bool.and_eq_true, Bool.not_eq_true', List.contains_eq_mem,
        decide_eq_false_iff_not] at hnd
      obtain ⟨cv1, cr1⟩ := Bool.and_eq_true_iff.mp c1
      obtain ⟨cv2, cr2⟩ := Bool.and_eq_true_iff.mp c2
      have ihr := hr r2 ty hnr hnd.2 cr1 cr2
      rw [eraseCtxFields, eraseCtxFields] at h
      rw [stripCtxFields, stripCtxFields]
      cases hctx : n1 == cs!"ctx" with
      | true =>
        rw [droppedField, droppedField, hctx, Bool.true_or, Bool.true_or, if_pos rfl, if_pos rfl] at h
        rw [if_pos rfl, if_pos rfl]
        exact ihr h
      | false =>
        rw [if_neg Bool.false_ne_true, if_neg Bool.false_ne_true]
        rw [droppedField, droppedField, hctx, Bool.false_or, Bool.false_or] at h
        cases d1 : isNoneScalar v1 && !keepsNone ty n1 <;> cases d2 : isNoneScalar v2 && !keepsNone ty n1 <;>
          rw [d1, d2] at h
        · rw [if_neg Bool.false_ne_true, if_neg Bool.false_ne_true] at h
          obtain ⟨h1, h2⟩ := Bool.and_eq_true_iff.mp h
          exact Bool.and_eq_true_iff.mpr ⟨Bool.and_eq_true_iff.mpr
            ⟨beq_self_eq_true _, hv v2 cv1 cv2 (Bool.and_eq_true_iff.mp h1).2⟩, ihr h2⟩
        · rw [if_neg Bool.false_ne_true, if_pos rfl] at h
          exact absurd (hnr ▸ (names_eraseCtxFields_sublist ty r2).subset
            (sameShapeFields_names h ▸ List.mem_cons_self)) hnd.1
        · rw [if_pos rfl, if_neg Bool.false_ne_true] at h
          exact absurd ((names_eraseCtxFields_sublist ty r1).subset
            (sameShapeFields_names h ▸ List.mem_cons_self)) hnd.1
        · rw [if_pos rfl, if_pos rfl] at h
          obtain ⟨k1, rfl⟩ := eq_of_isNoneScalar (Bool.and_eq_true_iff.mp d1).1
          obtain ⟨k2, rfl⟩ := eq_of_isNoneScalar (Bool.and_eq_true_iff.mp d2).1
          exact Bool.and_eq_true_iff.mpr ⟨Bool.and_eq_true_iff.mpr ⟨beq_self_eq_true _, rfl⟩, ihr h⟩
  · intro x2 _ _ h
    cases x2 with
    | nil => rfl
    | cons => nomatch h
  · intro v1 r1 hv hr x2 c1 c2 h
    cases x2 with
    | nil => nomatch h
    | cons v2 r2 =>
      obtain ⟨cv1, cr1⟩ := Bool.and_eq_true_iff.mp c1
      obtain ⟨cv2, cr2⟩ := Bool.and_eq_true_iff.mp c2
      obtain ⟨h1, h2⟩ := Bool.and_eq_true_iff.mp h
      exact Bool.and_eq_true_iff.mpr ⟨hv v2 cv1 cv2 h1, hr r2 cr1 cr2 h2⟩

/-- On trees with one field list per node type, the relation of the dump text (`sameExpr`, written out) gives
`sameUpToCtx` (written out). -/
theorem stripShape_of_eraseShape (sch : List (Str × List Str)) : ∀ (a b : Val), conforms sch a = true →
    conforms sch b = true → sameShape (eraseCtx a) (eraseCtx b) = true →
    sameShape (stripCtx a) (stripCtx b) = true :=
  (stripShape_of_eraseShape_all sch).1

theorem stripShapeFields_of_eraseShape (sch : List (Str × List Str)) (ty : Str) :
    ∀ (f1 f2 : List (Str × Val)), f1.map Prod.fst = f2.map Prod.fst → nodupB (f1.map Prod.fst) = true →
    conformsFields sch f1 = true → conformsFields sch f2 = true →
    sameShapeFields (eraseCtxFields ty f1) (eraseCtxFields ty f2) = true →
    sameShapeFields (stripCtxFields f1) (stripCtxFields f2) = true :=
  fun f1 f2 => (stripShape_of_eraseShape_all sch).2.1 f1 f2 ty

theorem stripShapeItems_of_eraseShape (sch : List (Str × List Str)) : ∀ (x1 x2 : List Val),
    conformsItems sch x1 = true → conformsItems sch x2 = true →
    sameShapeItems (eraseCtxItems x1) (eraseCtxItems x2) = true →
    sameShapeItems (stripCtxItems x1) (stripCtxItems x2) = true :=
  (stripShape_of_eraseShape_all sch).2.2

theorem conforms_of_at {sch : List (Str × List Str)} {v w : Val} {q : List Nat} {ns : List Str}
    (h : At v q ns w) : conforms sch v = true → conforms sch w = true :=
  h.descendB (g := fun f => conforms sch f.2) (fun hv => (Bool.and_eq_true_iff.mp hv).2)
    (fun _ _ => rfl) id id (fun _ _ => rfl)

end Paroxy.Flat
