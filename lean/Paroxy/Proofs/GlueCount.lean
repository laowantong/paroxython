/-
Counting `(name, range)` occurrences through the glue of `parse_program`, for the C12 deletion theorems:
one SQL stage (the deletion-consuming loop `stage_count`, the labels it does not touch `stage_untouched`),
the grouping of the kept occurrences and the merge of the scheduled additions, and all the stages folded
(`stages_fold_count`).
-/
import Paroxy.Model.ParseGlue
import Paroxy.Proofs.Isort
namespace Paroxy.Glue
open Paroxy.Hints

/-- Taking `D` away from `o`, then what is left of `D` away from `r`, takes `D` away from `o + r`. -/
theorem sub_add_sub_sub (o r D : Nat) : (o - D) + (r - (D - o)) = o + r - D := by
  rcases Nat.le_total o D with h | h
  · obtain ⟨k, rfl⟩ := Nat.exists_eq_add_of_le h
    rw [Nat.sub_eq_zero_of_le h, Nat.zero_add, Nat.add_sub_cancel_left, Nat.add_sub_add_left]
  · rw [Nat.sub_eq_zero_of_le h, Nat.sub_zero, Nat.sub_add_comm h]

/-- `list.remove` is `List.erase`, guarded by membership. -/
theorem removeFirst_eq (sp : Nat × Nat) (l : List (Nat × Nat)) :
    removeFirst sp l = if sp ∈ l then some (l.erase sp) else none := by
  induction l with
  | nil => rfl
  | cons x xs ih =>
    by_cases h : x = sp
    · subst h; simp [removeFirst]
    · have h' : ¬ sp = x := fun e => h e.symm
      have he : (x :: xs).erase sp = x :: xs.erase sp := List.erase_cons_tail (by simpa using h)
      simp only [removeFirst, if_neg h, ih, List.mem_cons, h', false_or, he]
      split <;> rfl

theorem removeFirst_none (sp : Nat × Nat) (l : List (Nat × Nat)) :
    removeFirst sp l = none ↔ l.count sp = 0 := by
  rw [removeFirst_eq, List.count_eq_zero]; split <;> simp [*]

theorem removeFirst_some (sp : Nat × Nat) (l l' : List (Nat × Nat)) (h : removeFirst sp l = some l') :
    1 ≤ l.count sp ∧ ∀ x, l'.count x = l.count x - if x = sp then 1 else 0 := by
  rw [removeFirst_eq] at h
  split at h
  · cases h
    rename_i hm
    exact ⟨List.count_pos_iff.mpr hm, fun x => by simp only [List.count_erase, beq_iff_eq, @eq_comm _ sp x]⟩
  · cases h

theorem sched_count_cons (k : Str) (l : List (Nat × Nat)) (rest : Sched) (name : Str) (sp : Nat × Nat) :
    Sched.count ((k, l) :: rest) name sp = (if k = name then l.count sp else 0) + Sched.count rest name sp := by
  simp [Sched.count]

theorem count_of_not_key (s : Sched) (name : Str) (sp : Nat × Nat) (h : name ∉ keys s) :
    Sched.count s name sp = 0 := by
  induction s with
  | nil => rfl
  | cons p rest ih =>
    obtain ⟨k, l⟩ := p
    simp only [keys, List.map_cons, List.mem_cons, not_or] at h
    have : ¬ k = name := fun e => h.1 e.symm
    rw [sched_count_cons, ih h.2]; simp [this]

theorem consume_none (name : Str) (sp : Nat × Nat) (s : Sched) (hnd : (keys s).Nodup) :
    consume name sp s = none ↔ Sched.count s name sp = 0 := by
  fun_induction consume name sp s with
  | case1 => exact ⟨fun _ => rfl, fun _ => rfl⟩
  | case2 l rest =>
    rw [sched_count_cons, if_pos rfl, count_of_not_key rest name sp (List.nodup_cons.mp hnd).1, Nat.add_zero,
      Option.map_eq_none_iff, removeFirst_none]
  | case3 k l rest hk ih =>
    rw [sched_count_cons, if_neg hk, Nat.zero_add, Option.map_eq_none_iff, ih (List.nodup_cons.mp hnd).2]

/-- A deletion can only be consumed under a key that is there, and consuming leaves the keys alone. -/
theorem consume_keys (name : Str) (sp : Nat × Nat) (s s' : Sched) (h : consume name sp s = some s') :
    name ∈ keys s ∧ keys s' = keys s := by
  fun_induction consume name sp s generalizing s' with
  | case1 => cases h
  | case2 l rest =>
    obtain ⟨l', _, rfl⟩ := Option.map_eq_some_iff.mp h
    exact ⟨List.mem_cons_self, rfl⟩
  | case3 k l rest hk ih =>
    obtain ⟨r', hr', rfl⟩ := Option.map_eq_some_iff.mp h
    obtain ⟨h1, h2⟩ := ih r' hr'
    exact ⟨List.mem_cons_of_mem _ h1, congrArg (k :: ·) h2⟩

theorem consume_some (name : Str) (sp : Nat × Nat) (s s' : Sched) (hnd : (keys s).Nodup)
    (h : consume name sp s = some s') :
    1 ≤ Sched.count s name sp ∧
      ∀ n x, Sched.count s' n x = Sched.count s n x - if n = name ∧ x = sp then 1 else 0 := by
  fun_induction consume name sp s generalizing s' with
  | case1 => cases h
  | case2 l rest =>
    obtain ⟨l', hl', rfl⟩ := Option.map_eq_some_iff.mp h
    obtain ⟨h1, h2⟩ := removeFirst_some sp l l' hl'
    have hrest := fun x => count_of_not_key rest name x (List.nodup_cons.mp hnd).1
    refine ⟨by rw [sched_count_cons, if_pos rfl, hrest]; exact h1, fun n x => ?_⟩
    rw [sched_count_cons, sched_count_cons]
    by_cases hn : name = n
    · subst hn
      simp only [if_true, true_and, h2 x, hrest, Nat.add_zero]
    · have : ¬ (n = name ∧ x = sp) := fun e => hn e.1.symm
      simp only [hn, this, if_false, Nat.sub_zero]
  | case3 k l rest hk ih =>
    obtain ⟨r', hr', rfl⟩ := Option.map_eq_some_iff.mp h
    obtain ⟨h1, h3⟩ := ih r' (List.nodup_cons.mp hnd).2 hr'
    refine ⟨by rw [sched_count_cons, if_neg hk, Nat.zero_add]; exact h1, fun n x => ?_⟩
    rw [sched_count_cons, sched_count_cons, h3 n x]
    by_cases hn : k = n
    · subst hn
      have : ¬ (k = name ∧ x = sp) := fun e => hk e.1
      simp only [this, if_false, Nat.sub_zero]
    · simp only [hn, if_false, Nat.zero_add]

theorem occCount_cons (o : Occ) (os : List Occ) (name : Str) (sp : Nat × Nat) :
    occCount (o :: os) name sp =
      (if o.1 = name ∧ (o.2.1, o.2.2.1) = sp then 1 else 0) + occCount os name sp := by
  unfold occCount
  rw [List.countP_cons, Nat.add_comm]
  simp only [Bool.and_eq_true, beq_iff_eq]

/-- **The loop, counted**: what is kept is what was computed minus what was scheduled (one
occurrence per scheduled deletion with exactly that name and range, as far as there are any), and
what remains scheduled is what found no occurrence. -/
theorem stage_count (occs : List Occ) (del : Sched) (hnd : (keys del).Nodup) :
      (keys (stage del occs).2 = keys del) ∧
      ∀ n x, occCount (stage del occs).1 n x = occCount occs n x - Sched.count del n x ∧
        Sched.count (stage del occs).2 n x = Sched.count del n x - occCount occs n x := by
  fun_induction stage del occs with
  | case1 del => exact ⟨rfl, fun n x => by simp [occCount]⟩
  | case2 del o os del' hc ih =>
    obtain ⟨h1, h3⟩ := consume_some _ _ del del' hnd hc
    have hk := (consume_keys _ _ del del' hc).2
    obtain ⟨ihk, ihc⟩ := ih (hk ▸ hnd)
    refine ⟨ihk.trans hk, fun n x => ?_⟩
    obtain ⟨a, b⟩ := ihc n x
    rw [a, b, h3 n x, occCount_cons]
    by_cases hm : o.1 = n ∧ (o.2.1, o.2.2.1) = x
    · obtain ⟨rfl, rfl⟩ := hm
      simp only [and_self, if_true]
      rw [← sub_add_sub_sub 1, Nat.sub_eq_zero_of_le h1, Nat.zero_add, Nat.sub_sub]
      exact ⟨rfl, rfl⟩
    · have hm' : ¬ (n = o.1 ∧ x = (o.2.1, o.2.2.1)) := fun e => hm ⟨e.1.symm, e.2.symm⟩
      simp only [hm, hm', if_false, Nat.sub_zero, Nat.zero_add, and_self]
  | case3 del o os hc ih =>
    have h0 := (consume_none _ _ del hnd).mp hc
    obtain ⟨ihk, ihc⟩ := ih hnd
    refine ⟨ihk, fun n x => ?_⟩
    obtain ⟨a, b⟩ := ihc n x
    rw [occCount_cons, occCount_cons, a, b]
    by_cases hm : o.1 = n ∧ (o.2.1, o.2.2.1) = x
    · obtain ⟨rfl, rfl⟩ := hm
      simp only [and_self, if_true, h0, Nat.sub_zero, Nat.zero_sub]
    · simp only [hm, if_false, Nat.zero_add, and_self]

theorem stage_sublist (occs : List Occ) (del : Sched) : ((stage del occs).1).Sublist occs := by
  fun_induction stage del occs with
  | case1 => exact .slnil
  | case2 del o os del' h ih => exact ih.trans (List.sublist_cons_self _ _)
  | case3 del o os h ih => exact ih.cons_cons o

theorem stage_untouched (name : Str) (occs : List Occ) (del : Sched) (hname : name ∉ keys del) :
      (stage del occs).1.filter (fun o => o.1 == name) = occs.filter (fun o => o.1 == name) := by
  fun_induction stage del occs with
  | case1 => rfl
  | case2 del o os del' hc ih =>
    obtain ⟨h1, hk⟩ := consume_keys _ _ del del' hc
    have hne : (o.1 == name) = false := by
      rw [beq_eq_false_iff_ne]; intro e; exact hname (e ▸ h1)
    rw [ih (hk ▸ hname), List.filter_cons, hne]; rfl
  | case3 del o os hc ih => rw [List.filter_cons, List.filter_cons, ih hname]

def spanKey (s : Span3) : Nat × Nat := (s.1, s.2.1)

theorem labels_count_cons (k : Str) (l : List Span3) (rest : Labels) (name : Str) (sp : Nat × Nat) :
    Labels.count ((k, l) :: rest) name sp =
      (if k = name then l.countP (fun s => (s.1, s.2.1) == sp) else 0) + Labels.count rest name sp := by
  simp [Labels.count]

theorem push_count (ls : Labels) (name : Str) (s : Span3) (n : Str) (x : Nat × Nat) :
    Labels.count (ls.push name s) n x =
      Labels.count ls n x + if name = n ∧ (s.1, s.2.1) = x then 1 else 0 := by
  have hone : [s].countP (fun s => (s.1, s.2.1) == x) = if (s.1, s.2.1) = x then 1 else 0 := by
    rw [List.countP_cons, List.countP_nil, Nat.zero_add]; simp only [beq_iff_eq]
  have hite : (if name = n then (if (s.1, s.2.1) = x then 1 else 0) else 0) =
      if name = n ∧ (s.1, s.2.1) = x then 1 else 0 := by split <;> simp [*]
  rw [← hite]
  fun_induction Labels.push ls name s with
  | case1 => rw [labels_count_cons, hone]; exact Nat.add_comm _ _
  | case2 l rest =>
    rw [labels_count_cons, labels_count_cons, List.countP_append, hone]
    split
    · exact Nat.add_right_comm _ _ _
    · rfl
  | case3 k l rest hk ih => rw [labels_count_cons, labels_count_cons, ih, Nat.add_assoc]

theorem group_count_aux (occs : List Occ) : ∀ acc : Labels, ∀ n x,
    Labels.count (occs.foldl (fun ls o => ls.push o.1 o.2) acc) n x = Labels.count acc n x + occCount occs n x := by
  induction occs with
  | nil => intro acc n x; simp [occCount]
  | cons o os ih =>
    intro acc n x
    rw [List.foldl_cons, ih, push_count, occCount_cons]
    omega

theorem group_count (occs : List Occ) (n : Str) (x : Nat × Nat) :
    Labels.count (group occs) n x = occCount occs n x := by
  rw [group, group_count_aux]; simp [Labels.count]

theorem countP_new (spans : List (Nat × Nat)) (x : Nat × Nat) :
    (spans.map fun sp => ((sp.1, sp.2, []) : Span3)).countP (fun s => (s.1, s.2.1) == x) = spans.count x := by
  induction spans with
  | nil => rfl
  | cons sp t ih =>
    rw [List.map_cons, List.countP_cons, ih, List.count_cons]

theorem extendSort_count (ls : Labels) (name : Str) (spans : List (Nat × Nat)) (n : Str) (x : Nat × Nat) :
    Labels.count (ls.extendSort name spans) n x =
      Labels.count ls n x + if name = n then spans.count x else 0 := by
  fun_induction Labels.extendSort ls name spans with
  | case1 new => rw [labels_count_cons, (isort_perm _ _).countP_eq, countP_new]; exact Nat.add_comm _ _
  | case2 new l rest =>
    rw [labels_count_cons, labels_count_cons, (isort_perm _ _).countP_eq, List.countP_append, countP_new]
    split
    · exact Nat.add_right_comm _ _ _
    · rfl
  | case3 k l rest hk ih => rw [labels_count_cons, labels_count_cons, ih, Nat.add_assoc]

theorem mergeAdditions_count (add : Sched) : ∀ ls : Labels, ∀ n x,
    Labels.count (mergeAdditions ls add) n x = Labels.count ls n x + Sched.count add n x := by
  induction add with
  | nil => intro ls n x; simp [mergeAdditions, Sched.count]
  | cons p rest ih =>
    obtain ⟨k, l⟩ := p
    intro ls n x
    have := ih (ls.extendSort k l) n x
    simp only [mergeAdditions, List.foldl_cons] at this ⊢
    rw [this, extendSort_count, sched_count_cons]
    omega

theorem labels_count_append (a b : Labels) (n : Str) (x : Nat × Nat) :
    Labels.count (a ++ b) n x = Labels.count a n x + Labels.count b n x := by
  simp [Labels.count, List.sum_append]

/-- Occurrences of `(n, x)` among what SQLite derived at all the stages. -/
def derivedCount (derived : List (List Occ)) (n : Str) (x : Nat × Nat) : Nat :=
  (derived.map fun d => occCount d n x).sum

/-- The SQL stages, folded: what is kept overall is what was derived overall minus the deletions still
scheduled (as far as there are occurrences), whatever the stage at which each occurrence shows up. -/
theorem stages_fold_count (derived : List (List Occ)) : ∀ (L : Labels) (D : Sched), (keys D).Nodup →
    let R := derived.foldl (fun acc d => ((acc.1 ++ (sqlStage acc.2 d).1, (sqlStage acc.2 d).2) : Labels × Sched)) (L, D)
    (keys R.2).Nodup ∧ ∀ n x,
      Labels.count R.1 n x = Labels.count L n x + (derivedCount derived n x - Sched.count D n x) ∧
      Sched.count R.2 n x = Sched.count D n x - derivedCount derived n x := by
  induction derived with
  | nil => intro L D hnd; simp [derivedCount]; exact hnd
  | cons d rest ih =>
    intro L D hnd
    obtain ⟨hk, hc⟩ := stage_count d D hnd
    have hnd' : (keys (sqlStage D d).2).Nodup := by simp only [sqlStage]; rw [hk]; exact hnd
    obtain ⟨ihk, ihc⟩ := ih (L ++ (sqlStage D d).1) (sqlStage D d).2 hnd'
    simp only [List.foldl_cons]
    refine ⟨ihk, fun n x => ?_⟩
    obtain ⟨a, b⟩ := ihc n x
    obtain ⟨c1, c2⟩ := hc n x
    simp only [sqlStage] at a b ⊢
    rw [a, b, labels_count_append, group_count, c1, c2]
    simp only [derivedCount, List.map_cons, List.sum_cons]
    rw [Nat.add_assoc, sub_add_sub_sub, Nat.sub_sub]
    exact ⟨rfl, rfl⟩

end Paroxy.Glue
