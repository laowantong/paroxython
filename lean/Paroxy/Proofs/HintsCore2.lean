/-
Helper lemmas for C12 after 069b3bf: `centrifugate_hints` drops the blank lines left at the ends of
the kept lines, so a decorated program and the same program without its blank end code lines
(`core2`) are centrifugated alike.
-/
import Paroxy.Proofs.HintsPrepare
import Paroxy.Proofs.HintsAllTexts
namespace Paroxy.Hints

variable {O : CharOracle}

theorem dropLeadingBlank_spec (d : Decorated) :
    codeLines (dropLeadingBlank d) = (codeLines d).dropWhile isBlankCode ∧
      wholeLabels (dropLeadingBlank d) = wholeLabels d ∧ (dropLeadingBlank d).Sublist d := by
  induction d with
  | nil => exact ⟨rfl, rfl, .slnil⟩
  | cons l t ih =>
    obtain ⟨i1, i2, i3⟩ := ih
    cases l with
    | code c =>
      by_cases h : isBlankCode c = true
      · simp only [dropLeadingBlank, h, if_true, codeLines, wholeLabels, List.dropWhile_cons_of_pos h]
        exact ⟨i1, i2, i3.trans (List.sublist_cons_self _ _)⟩
      · simp only [dropLeadingBlank, h, codeLines, List.dropWhile_cons_of_neg h]
        exact ⟨rfl, rfl, .refl _⟩
    | isolated n L => exact ⟨i1, congrArg (L :: ·) i2, i3.cons_cons _⟩

theorem codeLines_core2 (d : Decorated) : codeLines (core2 d) = trimBoth isBlankCode (codeLines d) := by
  have hr : ∀ d : Decorated, codeLines d.reverse = (codeLines d).reverse := fun d => by
    rw [codeLines_eq, codeLines_eq, List.filterMap_reverse]
  rw [core2, hr, (dropLeadingBlank_spec _).1, hr, (dropLeadingBlank_spec d).1]; rfl

theorem wholeLabels_core2 (d : Decorated) : wholeLabels (core2 d) = wholeLabels d := by
  have hr : ∀ d : Decorated, wholeLabels d.reverse = (wholeLabels d).reverse := fun d => by
    rw [wholeLabels_eq, wholeLabels_eq, List.filterMap_reverse]
  rw [core2, hr, (dropLeadingBlank_spec _).2.1, hr, (dropLeadingBlank_spec d).2.1, List.reverse_reverse]

theorem core2_sublist (d : Decorated) : (core2 d).Sublist d := by
  have h := List.reverse_sublist.mpr (dropLeadingBlank_spec (dropLeadingBlank d).reverse).2.2
  rw [List.reverse_reverse] at h
  exact h.trans (dropLeadingBlank_spec d).2.2

theorem ok_of_sublist {d' d : Decorated} (hs : d'.Sublist d) (ok : ∀ c ∈ codeLines d, (OkCode O) c)
    (hw : ∀ L ∈ wholeLabels d, (Clean O) L) :
    (∀ c ∈ codeLines d', (OkCode O) c) ∧ ∀ L ∈ wholeLabels d', (Clean O) L := by
  simp only [codeLines_eq, wholeLabels_eq] at ok hw ⊢
  exact ⟨fun c hc => ok c ((hs.filterMap _).subset hc), fun L hL => hw L ((hs.filterMap _).subset hL)⟩

theorem core_sublist (d : Decorated) : (core d).Sublist d := trimBoth_sublist isBlankLine d

theorem blankPy_renderCode (c : CodeLine) (ok : (OkCode O) c) : (blankPy O) (renderCode c) = isBlankCode c := by
  by_cases hb : isBlankCode c = true
  · have h := hb
    simp only [isBlankCode, Bool.and_eq_true, List.isEmpty_iff] at h
    simp [hb, renderCode, h.1, h.2, blankPy]
  · have hcode : c.code ≠ [] := by
      intro e
      by_cases hh : c.hints = []
      · exact hb (by simp [isBlankCode, e, hh])
      · exact ok.hinted hh e
    obtain ⟨x, hx⟩ : ∃ x, c.code.getLast? = some x := by
      cases h : c.code.getLast? with
      | none => simp at h; exact absurd h hcode
      | some x => exact ⟨x, rfl⟩
    have := blankPy_false_of_mem (renderCode_code_sub c x (List.mem_of_getLast? hx)) (ok.notrail x hx)
    rw [this]; simpa using hb

theorem trimBlank_map_render (cs : List CodeLine) (ok : ∀ c ∈ cs, (OkCode O) c) :
    (trimBlank O) (cs.map renderCode) = (trimBoth isBlankCode cs).map renderCode :=
  trimBoth_map renderCode (blankPy O) isBlankCode cs fun c hc => blankPy_renderCode c (ok c hc)

theorem centrifugate_core2 (d : Decorated) (ok : ∀ c ∈ codeLines d, (OkCode O) c)
    (hw : ∀ L ∈ wholeLabels d, (Clean O) L) (hne : codeLines (core2 d) ≠ []) :
    (centrifugate O) (decorate d) = (centrifugate O) (decorate (core2 d)) := by
  obtain ⟨ok2, hw2⟩ := ok_of_sublist (core2_sublist d) ok hw
  have hd2 : core2 d ≠ [] := by intro e; rw [e] at hne; exact hne rfl
  have hd : d ≠ [] := by intro e; rw [e] at hd2; exact hd2 rfl
  have hs1 : splitNL (decorate d) = d.map renderLine :=
    splitNL_joinNL _ (by simpa using hd) (renderLine_noNL d ok hw)
  have hs2 : splitNL (decorate (core2 d)) = (core2 d).map renderLine :=
    splitNL_joinNL _ (by simpa using hd2) (renderLine_noNL _ ok2 hw2)
  have e1 := trimBlank_map_render (codeLines d) ok
  have e2 : (trimBlank O) ((codeLines (core2 d)).map renderCode) = (trimBoth isBlankCode (codeLines d)).map renderCode := by
    rw [trimBlank_map_render _ ok2, codeLines_core2, trimBoth_idem]
  unfold centrifugate
  simp only [hs1, hs2, scanIsolated_decorated d ok hw, scanIsolated_decorated _ ok2 hw2, e1, e2,
    wholeLabels_core2]

theorem hyg_core2 (d : Decorated) (ok : ∀ c ∈ codeLines d, (OkCode O) c) (hw : ∀ L ∈ wholeLabels d, (Clean O) L)
    (hne : codeLines (core2 d) ≠ []) : (Hyg O) (core2 d) := by
  obtain ⟨ok2, hw2⟩ := ok_of_sublist (core2_sublist d) ok hw
  have hnb : ∀ c ∈ codeLines (core2 d), isBlankCode c = false → c.code ≠ [] := by
    intro c hc hb e
    by_cases hh : c.hints = []
    · simp [isBlankCode, e, hh] at hb
    · exact (ok2 c hc).hinted hh e
  refine ⟨ok2, hw2, hne, ?_, ?_⟩
  · intro c hc
    have hm := List.mem_of_head? hc
    rw [codeLines_core2] at hc
    exact hnb c hm (trimBoth_head _ _ c hc)
  · intro c hc
    have hm := List.mem_of_getLast? hc
    rw [codeLines_core2] at hc
    exact hnb c hm (trimBoth_getLast _ _ c hc)

theorem trimmed_ok (d : List (Line × MarkerStyle)) (hok : (LinesOk O) (d.map Prod.fst)) :
    (∀ c ∈ codeLines (trimmed d), (OkCode O) c) ∧ ∀ L ∈ wholeLabels (trimmed d), (Clean O) L := by
  obtain ⟨h1, h2⟩ := gap0_ok _ hok
  exact ok_of_sublist (by rw [List.map_map]; exact core_sublist _) h1 h2

theorem hyg_normalised (d : List (Line × MarkerStyle)) (hok : (LinesOk O) (d.map Prod.fst))
    (hne : codeLines (normalised d) ≠ []) : (Hyg O) (normalised d) :=
  have ⟨okt, hwt⟩ := trimmed_ok d hok
  hyg_core2 (trimmed d) okt hwt hne

theorem getProgram_decorateS (d : List (Line × MarkerStyle)) (hok : (LinesOk O) (d.map Prod.fst))
    (hne : codeLines (normalised d) ≠ []) :
    (getProgram O) (decorateS d) = (getProgramFrom O) (decorate (normalised d)) := by
  obtain ⟨okt, hwt⟩ := trimmed_ok d hok
  have hne1 : codeLines (trimmed d) ≠ [] := by
    intro e; apply hne; rw [normalised, codeLines_core2, e]; rfl
  rw [getProgram, prepare_decorateS d hok hne1, normalised]
  unfold getProgramFrom
  rw [centrifugate_core2 (trimmed d) okt hwt hne]

end Paroxy.Hints
