/-
Helper lemmas for the full C02_hint_spans: for EVERY text, `remove_hints` keeps the number of lines
of the centrifugated text (no newline is swallowed, no end line is stripped), provided a marker in
sight from the beginning of a line comes with its space or ends the line (`SpacedLine`: what the
normalisation of the markers leaves, see HintsSpaced). The centrifugated text is described once, by
`Kept`; `lineCount_stored` here and `source_noMarker` (HintsNoMarker) both rest on it.
-/
import Paroxy.Proofs.HintsSpans
namespace Paroxy.Hints

variable {O : CharOracle}

theorem subHints_keeps_nonblank (l : Str) (h : (hintAhead O) l = false) (hex : ∃ c ∈ l, (isSpacePy O) c = false) :
    ∃ x ∈ (subHints O) false l, x ∈ l ∧ (isSpacePy O) x = false := by
  induction l with
  | nil => simp at hex
  | cons c t ih =>
    simp only [subHints, Bool.false_and, Bool.false_eq_true, if_false, h]
    by_cases hc : (isSpacePy O) c = true
    · have ht : (hintAhead O) t = false := by
        unfold hintAhead at h ⊢
        rwa [List.dropWhile_cons_of_pos hc] at h
      obtain ⟨x, hx, hxs⟩ := hex
      rcases List.mem_cons.mp hx with rfl | hx
      · rw [hc] at hxs; cases hxs
      · obtain ⟨y, hy, hyt, hys⟩ := ih ht ⟨x, hx, hxs⟩
        exact ⟨y, List.mem_cons_of_mem _ hy, List.mem_cons_of_mem _ hyt, hys⟩
    · exact ⟨c, by simp, by simp, by simpa using hc⟩

theorem joinNL_snoc_eq (front : List Str) (last : Str) : ∃ Y, joinNL (front ++ [last]) = Y ++ last := by
  cases front with
  | nil => exact ⟨[], rfl⟩
  | cons a t => exact ⟨joinNL (a :: t) ++ ['\n'], by rw [joinNL_append _ _ (by simp) (by simp)]; simp [joinNL]⟩

theorem prefix_of_all {p : Char → Bool} {pre a X : Str} (h : pre <+: a ++ X) (hp : ∀ x ∈ pre, p x = true)
    (hex : ∃ c ∈ a, p c = false) : pre <+: a := by
  rcases List.prefix_or_prefix_of_prefix h (List.prefix_append a X) with h1 | h1
  · exact h1
  · obtain ⟨c, hc, hcp⟩ := hex
    rw [hp c (h1.subset hc)] at hcp; cases hcp

theorem suffix_of_all {p : Char → Bool} {suf Y z : Str} (h : suf <:+ Y ++ z) (hp : ∀ x ∈ suf, p x = true)
    (hex : ∃ c ∈ z, p c = false) : suf <:+ z := by
  rw [← List.reverse_prefix] at h ⊢
  rw [List.reverse_append] at h
  exact prefix_of_all h (by simpa using hp) (by simpa using hex)

/-- `str.strip()` does not change the number of line breaks of a text whose first and last lines are
not blank: what it takes away lies within those two lines. -/
theorem count_stripPy (ks : List Str) (hnl : ∀ k ∈ ks, '\n' ∉ k)
    (hfirst : ∀ k, ks.head? = some k → ∃ c ∈ k, (isSpacePy O) c = false)
    (hlast : ∀ k, ks.getLast? = some k → ∃ c ∈ k, (isSpacePy O) c = false) :
    ((stripPy O) (joinNL ks)).count '\n' = (joinNL ks).count '\n' := by
  cases ks with
  | nil => rfl
  | cons k1 rest =>
    obtain ⟨front, last, hfl⟩ := exists_snoc k1 rest
    have hlastmem : (k1 :: rest).getLast? = some last := by rw [hfl]; simp
    obtain ⟨X, hX⟩ := joinNL_cons_eq k1 rest
    obtain ⟨Y, hY⟩ := joinNL_snoc_eq front last
    rw [← hfl] at hY
    obtain ⟨pre, suf, hl, hpre, hsuf⟩ := trimBoth_decomp (isSpacePy O) (joinNL (k1 :: rest))
    have h1 : pre <+: k1 := prefix_of_all (X := X) (by rw [← hX]; exact ⟨_, hl.symm⟩) hpre (hfirst k1 rfl)
    have h2 : suf <:+ last := suffix_of_all (Y := Y)
      (by rw [← hY]; exact ⟨pre ++ trimBoth (isSpacePy O) (joinNL (k1 :: rest)), by rw [List.append_assoc]; exact hl.symm⟩)
      hsuf (hlast last hlastmem)
    have c1 : pre.count '\n' = 0 := List.count_eq_zero.mpr fun h => hnl k1 (by simp) (h1.subset h)
    have c2 : suf.count '\n' = 0 :=
      List.count_eq_zero.mpr fun h => hnl last (List.mem_of_getLast? hlastmem) (h2.subset h)
    conv => rhs; rw [hl, List.count_append, List.count_append, c1, c2, Nat.zero_add, Nat.add_zero]
    rfl

theorem count_joinNL (ls : List Str) (hne : ls ≠ []) (hnl : ∀ l ∈ ls, '\n' ∉ l) :
    (joinNL ls).count '\n' + 1 = ls.length := by
  rw [← lineCount_eq, lineCount, splitNL_joinNL ls hne hnl]

/-- The lines `centrifugate_hints` returns: none is a hint comment alone, the first and the last are
not blank. -/
structure Kept (O : CharOracle) (ls : List Str) : Prop where
  nonl : ∀ l ∈ ls, '\n' ∉ l
  ahead : ∀ l ∈ ls, (hintAhead O) l = false
  first : ∀ l, ls.head? = some l → ∃ c ∈ l, (isSpacePy O) c = false
  last : ∀ l, ls.getLast? = some l → ∃ c ∈ l, (isSpacePy O) c = false

theorem removeHints_joinNL {ls : List Str} (h : (Kept O) ls) :
    (removeHints O) (joinNL ls) = (stripPy O) (joinNL (ls.map ((subHints O) false))) := by
  rw [removeHints, (subHints_joinNL ls h.nonl h.ahead).2]

theorem lineCount_removeHints (ls : List Str) (h : (Kept O) ls) :
    lineCount ((removeHints O) (joinNL ls)) = lineCount (joinNL ls) := by
  by_cases hne : ls = []
  · subst hne; rfl
  have hnl : ∀ k ∈ ls.map ((subHints O) false), '\n' ∉ k :=
    List.forall_mem_map.mpr fun l hl hm => h.nonl l hl ((subHints_prefix l (h.nonl l hl)).subset hm)
  have hend : ∀ l ∈ ls, (∃ c ∈ l, (isSpacePy O) c = false) → ∃ c ∈ (subHints O) false l, (isSpacePy O) c = false := by
    intro l hl hex
    obtain ⟨x, hx, _, hxs⟩ := subHints_keeps_nonblank l (h.ahead l hl) hex
    exact ⟨x, hx, hxs⟩
  rw [removeHints_joinNL h, lineCount_eq, lineCount_eq, count_stripPy _ hnl
    (forall_head?_map.mpr fun l hl => hend l (List.mem_of_head? hl) (h.first l hl))
    (forall_getLast?_map.mpr fun l hl => hend l (List.mem_of_getLast? hl) (h.last l hl))]
  have h1 := count_joinNL (ls.map ((subHints O) false)) (by simpa using hne) hnl
  have h2 := count_joinNL ls hne h.nonl
  rw [List.length_map] at h1
  omega

theorem splitWs'_props (s : Str) :
    (∀ c ∈ ((splitWs' O) s).1, (isSpacePy O) c = false) ∧
      ∀ t ∈ ((splitWs' O) s).2, t ≠ [] ∧ ∀ c ∈ t, (isSpacePy O) c = false := by
  fun_induction splitWs' O s with
  | case1 => exact ⟨fun c hc => absurd hc List.not_mem_nil, fun t ht => absurd ht List.not_mem_nil⟩
  | case2 c t p hc ih =>
    refine ⟨fun x hx => absurd hx List.not_mem_nil, ?_⟩
    split
    · exact ih.2
    · rename_i hne
      exact fun x hx => (List.mem_cons.mp hx).elim (fun e => e ▸ ⟨hne, ih.1⟩) (ih.2 x)
  | case3 c t p hc ih =>
    exact ⟨fun x hx => (List.mem_cons.mp hx).elim (fun e => e ▸ (Bool.not_eq_true _ ▸ hc)) (ih.1 x), ih.2⟩

theorem splitWs_props (s : Str) : ∀ t ∈ (splitWs O) s, t ≠ [] ∧ ∀ c ∈ t, (isSpacePy O) c = false := by
  obtain ⟨h1, h2⟩ := splitWs'_props s
  intro t ht
  simp only [splitWs] at ht
  split at ht
  · exact h2 t ht
  · rename_i hne
    rcases List.mem_cons.mp ht with rfl | ht
    · exact ⟨hne, h1⟩
    · exact h2 t ht

theorem scan_props (ls : List Str) :
    (∀ l ∈ ((scanIsolated O) ls).1, l ∈ ls ∧ (isolatedRest O) l = none) ∧
      ∀ t ∈ ((scanIsolated O) ls).2, t ≠ [] ∧ ∀ c ∈ t, (isSpacePy O) c = false := by
  fun_induction scanIsolated O ls with
  | case1 => exact ⟨fun c hc => absurd hc List.not_mem_nil, fun t ht => absurd ht List.not_mem_nil⟩
  | case2 l ls p rest hiso ih =>
    refine ⟨fun x hx => ⟨List.mem_cons_of_mem _ (ih.1 x hx).1, (ih.1 x hx).2⟩, fun x hx => ?_⟩
    exact (List.mem_append.mp hx).elim (splitWs_props rest x) (ih.2 x)
  | case3 l ls p hiso ih =>
    refine ⟨fun x hx => ?_, ih.2⟩
    rcases List.mem_cons.mp hx with rfl | hx
    · exact ⟨List.mem_cons_self, hiso⟩
    · exact ⟨List.mem_cons_of_mem _ (ih.1 x hx).1, (ih.1 x hx).2⟩

theorem not_blankPy_exists (l : Str) (h : (blankPy O) l = false) : ∃ c ∈ l, (isSpacePy O) c = false := by
  simp only [blankPy, List.all_eq_false] at h
  obtain ⟨x, hx, hs⟩ := h
  exact ⟨x, hx, by simpa using hs⟩

/-- A line on which every marker in sight from its beginning is followed by a space or by the end
of the line (what the normalisation of the markers guarantees, see `prepare_spaced`). -/
def SpacedLine (O : CharOracle) (l : Str) : Prop := (hintAhead O) l = true → (isolatedRest O) l ≠ none

theorem hintAhead_addMarker (l toks : Str) (hah : (hintAhead O) l = false)
    (hex : ∃ c ∈ l, (isSpacePy O) c = false) : (hintAhead O) (addMarker l ++ toks) = false := by
  unfold hintAhead at hah ⊢
  rw [← Bool.not_eq_true, List.isPrefixOf_iff_prefix] at hah ⊢
  unfold addMarker
  split
  · rename_i hin
    rw [dropWhile_append_of_exists l _ hex]
    intro hp
    refine hah (List.prefix_of_prefix_length_le hp (List.prefix_append _ _) ?_)
    obtain ⟨pre, suf, rfl⟩ := (hasInfix_iff _ _).mp hin
    -- the marker begins with `#`: dropping white space leaves it whole
    rw [List.append_assoc, List.dropWhile_append]
    split
    · rw [show m13 ++ suf = '#' :: (m13.tail ++ suf) from rfl, List.dropWhile_cons_of_neg (ne_true_of_eq_false rfl)]
      simp [m13]
    · simp [m13]; omega
  · rw [List.append_assoc, dropWhile_append_of_exists l _ hex]
    exact m13_prefix_append _ _ (dropWhile_ne_nil_of_exists l hex) hah (safeTail_spaces_hash 1 _)

theorem splitNL'_noNL (s : Str) : '\n' ∉ (splitNL' s).1 ∧ ∀ l ∈ (splitNL' s).2, '\n' ∉ l := by
  fun_induction splitNL' s with
  | case1 => exact ⟨List.not_mem_nil, fun l hl => absurd hl List.not_mem_nil⟩
  | case2 t p ih => exact ⟨List.not_mem_nil, fun l hl => (List.mem_cons.mp hl).elim (fun e => e ▸ ih.1) (ih.2 l)⟩
  | case3 c t p hc ih => exact ⟨fun h => (List.mem_cons.mp h).elim (fun e => hc e.symm) ih.1, ih.2⟩

theorem splitNL_noNL (s : Str) : ∀ l ∈ splitNL s, '\n' ∉ l :=
  List.forall_mem_cons.mpr (splitNL'_noNL s)

theorem mem_splitNL' (s : Str) : (∀ c ∈ (splitNL' s).1, c ∈ s) ∧ ∀ l ∈ (splitNL' s).2, ∀ c ∈ l, c ∈ s := by
  fun_induction splitNL' s with
  | case1 => exact ⟨fun c hc => hc, fun l hl => absurd hl List.not_mem_nil⟩
  | case2 t p ih =>
    refine ⟨fun c hc => absurd hc List.not_mem_nil, fun l hl c hc => List.mem_cons_of_mem _ ?_⟩
    rcases List.mem_cons.mp hl with rfl | hl
    · exact ih.1 c hc
    · exact ih.2 l hl c hc
  | case3 x t p hx ih =>
    refine ⟨fun c hc => ?_, fun l hl c hc => List.mem_cons_of_mem _ (ih.2 l hl c hc)⟩
    rcases List.mem_cons.mp hc with rfl | hc
    · exact List.mem_cons_self
    · exact List.mem_cons_of_mem _ (ih.1 c hc)

theorem mem_splitNL (s : Str) : ∀ l ∈ splitNL s, ∀ c ∈ l, c ∈ s :=
  List.forall_mem_cons.mpr (mem_splitNL' s)

theorem centLines_kept (hs : List Str) (hh : ∀ t ∈ hs, ∀ c ∈ t, (isSpacePy O) c = false) (K : List Str)
    (hK : (Kept O) K) : (Kept O) (centLines hs K) := by
  have hnl : ∀ t ∈ hs, '\n' ∉ t := fun t ht hm => nomatch (hh t ht _ hm).symm.trans (rfl : (isSpacePy O) '\n' = true)
  have hopen : ∀ t ∈ hs, '\n' ∉ openTok t := fun t ht => by simp [openTok, dots3, hnl t ht]
  have hclose : ∀ t ∈ hs, '\n' ∉ closeTok t := fun t ht => by simp [closeTok, dots3, hnl t ht]
  have hflat : ∀ f : Str → Str, (∀ t ∈ hs, '\n' ∉ f t) → '\n' ∉ hs.flatMap f := fun f hf hm => by
    obtain ⟨t, ht, hc⟩ := List.mem_flatMap.mp hm
    exact hf t ht hc
  have hmark : ∀ l, ∃ X, addMarker l = l ++ X ∧ '\n' ∉ X := fun l => by
    unfold addMarker
    split
    · exact ⟨[], (List.append_nil l).symm, List.not_mem_nil⟩
    · exact ⟨' ' :: m13, rfl, by decide⟩
  -- an end line, once the marker and tokens are appended to it
  have hend : ∀ l ∈ K, (∃ c ∈ l, (isSpacePy O) c = false) → ∀ toks, '\n' ∉ toks →
      '\n' ∉ addMarker l ++ toks ∧ (hintAhead O) (addMarker l ++ toks) = false ∧
        ∃ c ∈ addMarker l ++ toks, (isSpacePy O) c = false := by
    intro l hl hex toks htoks
    refine ⟨?_, hintAhead_addMarker l toks (hK.ahead l hl) hex, ?_⟩
    · obtain ⟨X, hX, hXnl⟩ := hmark l
      rw [hX]
      exact fun hm => (List.mem_append.mp hm).elim
        (fun hm => (List.mem_append.mp hm).elim (hK.nonl l hl) hXnl) htoks
    · obtain ⟨c, hc, hcs⟩ := hex
      obtain ⟨X, hX, _⟩ := hmark l
      exact ⟨c, by rw [hX]; exact List.mem_append_left _ (List.mem_append_left _ hc), hcs⟩
  cases K with
  | nil => exact hK
  | cons l0 t =>
    cases t with
    | nil =>
      obtain ⟨h1, h2, h3⟩ := hend l0 (by simp) (hK.first l0 rfl) _
        (hflat _ fun t ht hm => (List.mem_append.mp hm).elim (hopen t ht) (hclose t ht))
      exact ⟨fun x hx => by cases List.mem_singleton.mp hx; exact h1,
        fun x hx => by cases List.mem_singleton.mp hx; exact h2,
        fun x hx => by cases hx; exact h3, fun x hx => by cases hx; exact h3⟩
    | cons l2 t2 =>
      obtain ⟨mid, last, hml⟩ := exists_snoc l2 t2
      rw [hml] at hK hend ⊢
      have hlast : (l0 :: (mid ++ [last])).getLast? = some last := by
        rw [List.getLast?_cons_of_ne_nil (by simp), List.getLast?_append]; simp
      obtain ⟨a1, a2, a3⟩ := hend l0 (by simp) (hK.first l0 rfl) _ (hflat _ hopen)
      obtain ⟨z1, z2, z3⟩ := hend last (by simp) (hK.last last hlast) _ (hflat _ hclose)
      rw [centLines_snoc]
      refine ⟨fun x hx => ?_, fun x hx => ?_, fun x hx => ?_, fun x hx => ?_⟩
      · simp only [List.mem_cons, List.mem_append, List.not_mem_nil, or_false] at hx
        rcases hx with rfl | hx | rfl
        · exact a1
        · exact hK.nonl x (by simp [hx])
        · exact z1
      · simp only [List.mem_cons, List.mem_append, List.not_mem_nil, or_false] at hx
        rcases hx with rfl | hx | rfl
        · exact a2
        · exact hK.ahead x (by simp [hx])
        · exact z2
      · cases hx; exact a3
      · rw [List.getLast?_cons_of_ne_nil (by simp), List.getLast?_append] at hx
        cases hx; exact z3

theorem centrifugate_kept (T c : Str) (hsp : ∀ l ∈ splitNL T, SpacedLine O l) (h : (centrifugate O) T = .ok c) :
    ∃ ls, c = joinNL ls ∧ (Kept O) ls := by
  obtain ⟨hk1, hk2⟩ := scan_props (O := O) (splitNL T)
  have hsub : ((trimBlank O) ((scanIsolated O) (splitNL T)).1).Sublist _ := trimBoth_sublist (blankPy O) _
  have hK : (Kept O) ((trimBlank O) ((scanIsolated O) (splitNL T)).1) := by
    refine ⟨fun l hl => ?_, fun l hl => ?_,
      fun l hl => not_blankPy_exists l (trimBoth_head (blankPy O) _ l hl),
      fun l hl => not_blankPy_exists l (trimBoth_getLast (blankPy O) _ l hl)⟩
    · exact splitNL_noNL T l (hk1 l (hsub.subset hl)).1
    · have := hk1 l (hsub.subset hl)
      cases hh : (hintAhead O) l with
      | false => rfl
      | true => exact absurd this.2 (hsp l this.1 hh)
  unfold centrifugate at h
  simp only at h
  split at h
  · cases h; exact ⟨_, rfl, hK⟩
  · split at h
    · cases h
    · cases h
      exact ⟨_, rfl, centLines_kept _ (fun t ht => (hk2 t ((mem_sortDedup t _).mp ht)).2) _ hK⟩

theorem mem_joinNL (ls : List Str) (c : Char) (h : c ∈ joinNL ls) : c = '\n' ∨ ∃ l ∈ ls, c ∈ l := by
  induction ls with
  | nil => simp [joinNL] at h
  | cons l t ih =>
    cases t with
    | nil => exact Or.inr ⟨l, by simp, by simpa [joinNL] using h⟩
    | cons l2 t2 =>
      rw [joinNL_cons_cons] at h
      rcases List.mem_append.mp h with h | h
      · exact Or.inr ⟨l, by simp, h⟩
      · rcases List.mem_cons.mp h with rfl | h
        · exact Or.inl rfl
        · rcases ih h with h | ⟨x, hx, hc⟩
          · exact Or.inl h
          · exact Or.inr ⟨x, List.mem_cons_of_mem _ hx, hc⟩

theorem trimEnds_sublist (s : Str) : ∀ c ∈ (trimEnds O) s, c ∈ s := by
  obtain ⟨A, B, hs, -⟩ := trimEnds_decomp (O := O) s
  intro c hc
  rw [hs]
  exact List.mem_append_right _ (List.mem_append_left _ hc)

/-- **Every text**: the stored source has as many lines as the text the hints were numbered on. -/
theorem lineCount_stored (T c : Str) (hsp : ∀ l ∈ splitNL T, SpacedLine O l) (hc : (centrifugate O) T = .ok c) :
    lineCount ((removeHints O) c) = lineCount c := by
  obtain ⟨ls, rfl, hK⟩ := centrifugate_kept _ c hsp hc
  exact lineCount_removeHints ls hK

end Paroxy.Hints
