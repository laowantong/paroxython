/-
The dump is the pre-order enumeration of the tree — every node, list and scalar exactly once, under its
root-to-node path, the addresses strictly increasing in lexicographic order.
-/
import Paroxy.Proofs.FlatPath
namespace Paroxy.Flat

mutual
theorem dumpP_eq_entries (h : Str → Str) (names : List Str) (addr : List Nat) : ∀ v : Val,
    dumpP h (encNames names) (encPath addr) v = (entries names addr v).flatMap (Entry.lines h)
  | .node ty e r ln fs => by
    have ih := dumpPFields_eq_entries h names addr 0 fs
    cases ln <;> exact congrArg (fun X => typeLine _ ty :: (_ ++ X)) ih
  | .list q xs => congrArg (_ ++ ·) (dumpPItems_eq_entries h names addr 1 xs)
  | .scalar r k => rfl
theorem dumpPFields_eq_entries (h : Str → Str) (names : List Str) (addr : List Nat) (i : Nat) :
    ∀ fs : List (Str × Val),
    dumpPFields h (encNames names) (encPath addr) i fs =
      (entriesFields names addr i fs).flatMap (Entry.lines h)
  | [] => rfl
  | (n, v) :: rest => by
    have h1 := dumpP_eq_entries h (names ++ [n]) (addr ++ [i]) v
    rw [← subPre_encNames, ← subPath_encPath] at h1
    exact (congr (congrArg _ h1) (dumpPFields_eq_entries h names addr (i + 1) rest)).trans
      List.flatMap_append.symm
theorem dumpPItems_eq_entries (h : Str → Str) (names : List Str) (addr : List Nat) (i : Nat) :
    ∀ xs : List Val,
    dumpPItems h (encNames names) (encPath addr) i xs =
      (entriesItems names addr i xs).flatMap (Entry.lines h)
  | [] => rfl
  | v :: rest => by
    have h1 := dumpP_eq_entries h (names ++ [dec i]) (addr ++ [i]) v
    rw [← subPre_encNames, ← subPath_encPath] at h1
    exact (congr (congrArg _ h1) (dumpPItems_eq_entries h names addr (i + 1) rest)).trans
      List.flatMap_append.symm
end

theorem at_exists {v w : Val} {q : List Nat} (h : v.at? q = some w) : ∃ ns, At v q ns w := by
  induction q generalizing v with
  | nil => exact ⟨[], Option.some.inj h ▸ At.here v⟩
  | cons i q ih =>
    obtain ⟨c, hc, h⟩ := Option.bind_eq_some_iff.mp h
    obtain ⟨ns, hns⟩ := ih h
    cases v with
    | scalar => nomatch hc
    | node ty e r ln fs =>
      obtain ⟨p, hp, rfl⟩ := Option.map_eq_some_iff.mp hc
      exact ⟨p.1 :: ns, At.field hp hns⟩
    | list qt xs =>
      cases i with
      | zero => nomatch hc
      | succ k => exact ⟨dec (k + 1) :: ns, At.item hc hns⟩

theorem at_iff (v : Val) (q : List Nat) (ns : List Str) (w : Val) :
    At v q ns w ↔ v.at? q = some w ∧ v.namesAt? q = some ns := by
  have fwd : ∀ {v q ns w}, At v q ns w → v.at? q = some w ∧ v.namesAt? q = some ns := by
    intro v q ns w h
    induction h with
    | here v => exact ⟨rfl, rfl⟩
    | field hk _ ih =>
      simp only [Val.at?, Val.namesAt?, Val.child?, Val.childName?, hk, Option.map_some,
        Option.bind_some, ih.1, ih.2, and_self]
    | @item qt xs k c q ns w hk _ ih =>
      have h1 : ¬ (xs.length < k + 1) := Nat.not_lt.mpr (List.getElem?_eq_some_iff.mp hk).1
      simp [Val.at?, Val.namesAt?, Val.child?, Val.childName?, hk, h1, ih.1, ih.2]
  -- conversely the names along an address are determined by the address
  refine ⟨fwd, fun ⟨h1, h2⟩ => ?_⟩
  obtain ⟨ns', h⟩ := at_exists h1
  rw [Option.some.inj ((fwd h).2.symm.trans h2)] at h
  exact h

theorem Entry.eq_here (addr : List Nat) (names : List Str) (it : Item) :
    (⟨addr, names, it⟩ : Entry) = ⟨addr ++ [], names ++ [], it⟩ := by
  rw [List.append_nil, List.append_nil]

theorem mem_entries_all (e : Entry) :
    (∀ v names addr, e ∈ entries names addr v ↔
      ∃ q ns w, At v q ns w ∧ e = ⟨addr ++ q, names ++ ns, w.item⟩) ∧
    (∀ fs names addr i, e ∈ entriesFields names addr i fs ↔
      ∃ k n c q ns w, fs[k]? = some (n, c) ∧ At c q ns w ∧ e = ⟨addr ++ (i + k) :: q, names ++ n :: ns, w.item⟩) ∧
    (∀ xs names addr i, e ∈ entriesItems names addr i xs ↔
      ∃ k c q ns w, xs[k]? = some c ∧ At c q ns w ∧
        e = ⟨addr ++ (i + k) :: q, names ++ dec (i + k) :: ns, w.item⟩) := by
  refine Val.induction ?_ ?_ ?_ ?_ ?_ ?_ ?_
  · intro ty ex r ln fs ih names addr
    show e ∈ _ :: entriesFields names addr 0 fs ↔ _
    rw [List.mem_cons, ih]
    constructor
    · rintro (rfl | ⟨k, n, c, q, ns, w, hk, hat, rfl⟩)
      · exact ⟨[], [], _, At.here _, Entry.eq_here ..⟩
      · exact ⟨k :: q, n :: ns, w, At.field hk hat, by rw [Nat.zero_add]⟩
    · rintro ⟨q, ns, w, hat, rfl⟩
      cases hat with
      | here => exact .inl (Entry.eq_here ..).symm
      | field hk hat' => exact .inr ⟨_, _, _, _, _, _, hk, hat', by rw [Nat.zero_add]⟩
  · intro qt xs ih names addr
    show e ∈ _ :: entriesItems names addr 1 xs ↔ _
    rw [List.mem_cons, ih]
    constructor
    · rintro (rfl | ⟨k, c, q, ns, w, hk, hat, rfl⟩)
      · exact ⟨[], [], _, At.here _, Entry.eq_here ..⟩
      · exact ⟨(k + 1) :: q, dec (k + 1) :: ns, w, At.item hk hat, by rw [Nat.add_comm 1 k]⟩
    · rintro ⟨q, ns, w, hat, rfl⟩
      cases hat with
      | here => exact .inl (Entry.eq_here ..).symm
      | item hk hat' => exact .inr ⟨_, _, _, _, _, hk, hat', by rw [Nat.add_comm 1]⟩
  · intro r k names addr
    show e ∈ [_] ↔ _
    rw [List.mem_singleton]
    constructor
    · rintro rfl
      exact ⟨[], [], _, At.here _, Entry.eq_here ..⟩
    · rintro ⟨q, ns, w, hat, rfl⟩
      cases hat with
      | here => exact (Entry.eq_here ..).symm
  · exact fun _ _ _ => ⟨fun h => (nomatch h), fun ⟨_, _, _, _, _, _, hk, _⟩ => (nomatch List.getElem?_nil.symm.trans hk)⟩
  · intro n0 v0 rest h1 h2 names addr i
    show e ∈ entries (names ++ [n0]) (addr ++ [i]) v0 ++ entriesFields names addr (i + 1) rest ↔ _
    rw [List.mem_append, h1, h2]
    constructor
    · rintro (⟨q, ns, w, hat, rfl⟩ | ⟨k, n, c, q, ns, w, hk, hat, rfl⟩)
      · exact ⟨0, n0, v0, q, ns, w, List.getElem?_cons_zero, hat, by rw [List.append_assoc, List.append_assoc]; rfl⟩
      · exact ⟨k + 1, n, c, q, ns, w, List.getElem?_cons_succ.trans hk, hat, by rw [Nat.add_assoc, Nat.add_comm 1 k]⟩
    · rintro ⟨k, n, c, q, ns, w, hk, hat, rfl⟩
      cases k with
      | zero =>
        obtain ⟨rfl, rfl⟩ := Prod.mk.inj (Option.some.inj (List.getElem?_cons_zero.symm.trans hk))
        exact .inl ⟨q, ns, w, hat, by rw [List.append_assoc, List.append_assoc]; rfl⟩
      | succ k => exact .inr ⟨k, n, c, q, ns, w, List.getElem?_cons_succ.symm.trans hk, hat, by rw [Nat.add_assoc, Nat.add_comm 1 k]⟩
  · exact fun _ _ _ => ⟨fun h => (nomatch h), fun ⟨_, _, _, _, _, hk, _⟩ => (nomatch List.getElem?_nil.symm.trans hk)⟩
  · intro v0 rest h1 h2 names addr i
    show e ∈ entries (names ++ [dec i]) (addr ++ [i]) v0 ++ entriesItems names addr (i + 1) rest ↔ _
    rw [List.mem_append, h1, h2]
    constructor
    · rintro (⟨q, ns, w, hat, rfl⟩ | ⟨k, c, q, ns, w, hk, hat, rfl⟩)
      · exact ⟨0, v0, q, ns, w, List.getElem?_cons_zero, hat, by rw [List.append_assoc, List.append_assoc]; rfl⟩
      · exact ⟨k + 1, c, q, ns, w, List.getElem?_cons_succ.trans hk, hat, by rw [Nat.add_assoc, Nat.add_comm 1 k]⟩
    · rintro ⟨k, c, q, ns, w, hk, hat, rfl⟩
      cases k with
      | zero =>
        obtain rfl := Option.some.inj (List.getElem?_cons_zero.symm.trans hk)
        exact .inl ⟨q, ns, w, hat, by rw [List.append_assoc, List.append_assoc]; rfl⟩
      | succ k => exact .inr ⟨k, c, q, ns, w, List.getElem?_cons_succ.symm.trans hk, hat, by rw [Nat.add_assoc, Nat.add_comm 1 k]⟩

theorem mem_entries_iff (names : List Str) (addr : List Nat) (e : Entry) (v : Val) :
    e ∈ entries names addr v ↔ ∃ q ns w, At v q ns w ∧ e = ⟨addr ++ q, names ++ ns, w.item⟩ :=
  (mem_entries_all e).1 v names addr

theorem mem_entriesFields_iff (names : List Str) (addr : List Nat) (i : Nat) (e : Entry)
    (fs : List (Str × Val)) :
    e ∈ entriesFields names addr i fs ↔ ∃ k n c q ns w, fs[k]? = some (n, c) ∧ At c q ns w ∧
      e = ⟨addr ++ (i + k) :: q, names ++ n :: ns, w.item⟩ :=
  (mem_entries_all e).2.1 fs names addr i

theorem mem_entriesItems_iff (names : List Str) (addr : List Nat) (i : Nat) (e : Entry) (xs : List Val) :
    e ∈ entriesItems names addr i xs ↔ ∃ k c q ns w, xs[k]? = some c ∧ At c q ns w ∧
      e = ⟨addr ++ (i + k) :: q, names ++ dec (i + k) :: ns, w.item⟩ :=
  (mem_entries_all e).2.2 xs names addr i

theorem lt_append_cons (addr : List Nat) (k : Nat) (q : List Nat) : addr < addr ++ k :: q := by
  have := List.append_left_lt (l₁ := addr) (List.nil_lt_cons k q)
  rwa [List.append_nil] at this

theorem append_cons_lt (addr : List Nat) {i j : Nat} (h : i < j) (q q' : List Nat) :
    addr ++ i :: q < addr ++ j :: q' :=
  List.append_left_lt (List.cons_lt_cons_iff.mpr (Or.inl h))

mutual
theorem entries_sorted (names : List Str) (addr : List Nat) : ∀ v : Val,
    (entries names addr v).Pairwise (fun a b => a.addr < b.addr)
  | .node ty ex r ln fs => by
    refine List.pairwise_cons.mpr ⟨fun b hb => ?_, entriesFields_sorted names addr 0 fs⟩
    obtain ⟨k, n, c, q, ns, w, -, -, rfl⟩ := (mem_entriesFields_iff names addr 0 b fs).mp hb
    exact lt_append_cons addr _ q
  | .list qt xs => by
    refine List.pairwise_cons.mpr ⟨fun b hb => ?_, entriesItems_sorted names addr 1 xs⟩
    obtain ⟨k, c, q, ns, w, -, -, rfl⟩ := (mem_entriesItems_iff names addr 1 b xs).mp hb
    exact lt_append_cons addr _ q
  | .scalar r k => List.pairwise_singleton _ _
theorem entriesFields_sorted (names : List Str) (addr : List Nat) (i : Nat) :
    ∀ fs : List (Str × Val), (entriesFields names addr i fs).Pairwise (fun a b => a.addr < b.addr)
  | [] => List.Pairwise.nil
  | (n0, v0) :: rest => by
    refine List.pairwise_append.mpr ⟨entries_sorted _ _ v0, entriesFields_sorted names addr (i + 1) rest,
      fun a ha b hb => ?_⟩
    obtain ⟨q, ns, w, -, rfl⟩ := (mem_entries_iff _ _ a v0).mp ha
    obtain ⟨k, n, c, q', ns', w', -, -, rfl⟩ := (mem_entriesFields_iff names addr (i + 1) b rest).mp hb
    rw [List.append_assoc]
    exact append_cons_lt addr (Nat.lt_add_right k (Nat.lt_succ_self i)) _ _
theorem entriesItems_sorted (names : List Str) (addr : List Nat) (i : Nat) :
    ∀ xs : List Val, (entriesItems names addr i xs).Pairwise (fun a b => a.addr < b.addr)
  | [] => List.Pairwise.nil
  | v0 :: rest => by
    refine List.pairwise_append.mpr ⟨entries_sorted _ _ v0, entriesItems_sorted names addr (i + 1) rest,
      fun a ha b hb => ?_⟩
    obtain ⟨q, ns, w, -, rfl⟩ := (mem_entries_iff _ _ a v0).mp ha
    obtain ⟨k, c, q', ns', w', -, -, rfl⟩ := (mem_entriesItems_iff names addr (i + 1) b rest).mp hb
    rw [List.append_assoc]
    exact append_cons_lt addr (Nat.lt_add_right k (Nat.lt_succ_self i)) _ _
end

theorem entries_addr_nodup (names : List Str) (addr : List Nat) (v : Val) :
    ((entries names addr v).map (·.addr)).Nodup := by
  have h := entries_sorted names addr v
  rw [List.Nodup, List.pairwise_map]
  exact h.imp fun {a b} hab e => by
    rw [e] at hab
    exact List.lt_irrefl _ hab

end Paroxy.Flat
