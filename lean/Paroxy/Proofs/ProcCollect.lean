/-
The threaded collection `collectProc` is `makeDb` applied to the labels each program gets ALONE and to the pure
translation of the taxonomy; `makeDb` only asks the taxonomy about the labels of the collected programs.
-/
import Paroxy.Model.ProcCollect
import Paroxy.Proofs.Process
import Paroxy.Proofs.MakeDb
namespace Paroxy.Proc
open Paroxy Paroxy.DB

variable {E : Engines} {lit0 : List (Name × List Name)}

/-- The labels a program gets from a fresh parser (empty when the parser raises). -/
def labelsAlone (E : Engines) (lit0 : List (Name × List Name)) (it : Item) : List Label :=
  match (parseStep E (init lit0) it.prog).2 with
  | .ok ls => ls
  | .error _ => []

def progAlone (E : Engines) (lit0 : List (Name × List Name)) (it : Item) : Prog :=
  { path := it.path, timestamp := [], source := it.source, labels := labelsAlone E lit0 it }

/-- The taxonomy as a pure function of the labels (C09's specification, with the oracles of `E`). -/
def pureTaxa (E : Engines) (lit0 : List (Name × List Name)) (ls : List Label) : List Taxon :=
  E.assemble (ls.map fun l => (l, pureTranslate E lit0 l.name))

theorem pathsOf_progAlone (items : List Item) : pathsOf (items.map (progAlone E lit0)) = items.map (·.path) := by
  simp [pathsOf, progAlone, List.map_map, Function.comp_def]

theorem parseSeq_spec (items : List Item) (S : State) (h : Inv E lit0 S) :
    Inv E lit0 (parseSeq E S items).1 ∧
    ∀ r, (parseSeq E S items).2 = .ok r → r.map rawProg = items.map (progAlone E lit0) := by
  fun_induction parseSeq E S items with
  | case1 S => exact ⟨h, fun r hr => by cases hr; rfl⟩
  | case2 S it rest S1 e hps =>
    have h1 := parseStep_inv h it.prog
    rw [hps] at h1
    exact ⟨h1, nofun⟩
  | case3 S it rest S1 ls hps S2 e hrest ih =>
    have h1 := parseStep_inv h it.prog
    rw [hps] at h1
    exact ⟨hrest ▸ (ih h1).1, nofun⟩
  | case4 S it rest S1 ls hps S2 r2 hrest ih =>
    have h1 := parseStep_inv h it.prog
    have hout := (parseStep_spec E h.1 (inv_init E lit0).1 it.prog).1
    rw [hps] at h1 hout
    obtain ⟨ih1, ih2⟩ := ih h1
    rw [hrest] at ih1 ih2
    refine ⟨ih1, fun r hr => ?_⟩
    cases hr
    simp only [List.map_cons, ih2 r2 rfl, List.cons.injEq, and_true]
    simp only [rawProg, progAlone, labelsAlone, ← hout]

theorem taxaSeq_spec (lss : List (List Label)) (S : State) (h : TaxoInv E lit0 S.taxo) :
    (taxaSeq E S lss).2 = lss.map (pureTaxa E lit0) := by
  induction lss generalizing S with
  | nil => rfl
  | cons ls rest ih =>
    obtain ⟨h1, h2, -⟩ := taxaStep_spec E h ls
    unfold taxaSeq
    simp only [List.map_cons]
    rw [ih _ h2, h1]
    rfl

theorem foldl_set_congr {β γ : Type} (key : γ → Name) (f g : γ → β) (xs : List γ)
    (d : List (Name × β)) (h : ∀ x ∈ xs, f x = g x) :
    xs.foldl (fun d x => set d (key x) (f x)) d = xs.foldl (fun d x => set d (key x) (g x)) d := by
  induction xs generalizing d with
  | nil => rfl
  | cons x t ih =>
    simp only [List.foldl_cons]
    rw [h x List.mem_cons_self]
    exact ih _ (fun y hy => h y (List.mem_cons_of_mem _ hy))

theorem makeDb_congr {f g : Name → List Label → List Taxon} {progs : List Prog}
    (h : ∀ p ∈ progs, f p.path (labelsOf (internalOf progs) p) = g p.path (labelsOf (internalOf progs) p)) :
    makeDb f progs = makeDb g progs := by
  have h1 : taxaed f progs = taxaed g progs := by
    unfold taxaed
    apply List.map_congr_left
    intro p hp
    rw [h p hp]
  have h2 : progs.foldl (fun d p => set d p.path (recordOf f (internalOf progs) p)) [] =
      progs.foldl (fun d p => set d p.path (recordOf g (internalOf progs) p)) [] := by
    apply foldl_set_congr
    intro p hp
    unfold recordOf
    rw [h p hp]
  unfold makeDb
  simp only [h1, h2]

theorem get?_zip_map {β γ : Type} (l : List (Name × β)) (g : β → γ) (hn : (keys l).Nodup)
    {e : Name × β} (he : e ∈ l) :
    get? ((l.map (·.1)).zip ((l.map (·.2)).map g)) e.1 = some (g e.2) := by
  have hz : (l.map (·.1)).zip ((l.map (·.2)).map g) = l.map fun x => (x.1, g x.2) := by
    clear hn he
    induction l with
    | nil => rfl
    | cons x t ih => simp only [List.map_cons, List.zip_cons_cons, ih]
  rw [hz]
  exact get?_map_of_mem (key := fun x : Name × β => x.1) (fun x => g x.2) hn he

/-- **The threaded collection is the pure one.** Whenever `collectProc` returns a database, it is the
database `makeDb` builds from the labels each program gets alone and the pure taxonomy. -/
theorem collectProc_eq {items : List Item} {db : Db}
    (hn : (items.map (·.path)).Nodup) (h : collectProc E lit0 items = .ok db) :
    makeDb (fun _ ls => pureTaxa E lit0 ls) (items.map (progAlone E lit0)) = .ok db := by
  obtain ⟨hinv, hspec⟩ := parseSeq_spec items (init lit0) (inv_init E lit0)
  revert h
  fun_cases collectProc E lit0 items
  case case3 S1 r hps progs lab taxa table db' hm =>
    intro h
    cases h
    rw [hps] at hinv hspec
    have hpd : progs = items.map (progAlone E lit0) := hspec r rfl
    have hnk : (keys (labelled progs)).Nodup := by rw [keys_labelled, hpd, pathsOf_progAlone]; exact hn
    rw [← hpd, ← hm]
    -- the table built from the threaded taxonomy answers, at each collected path, with the pure taxonomy
    refine (makeDb_congr fun p hp => ?_).symm
    have he : (p.path, labelsOf (internalOf progs) p) ∈ labelled progs := List.mem_map.mpr ⟨p, hp, rfl⟩
    have := get?_zip_map (labelled progs) (pureTaxa E lit0) hnk he
    simp only [table, taxa, lab, taxaSeq_spec _ _ hinv.2, this, Option.getD_some]
  all_goals nofun

end Paroxy.Proc
