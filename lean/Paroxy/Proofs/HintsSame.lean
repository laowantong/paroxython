/-
Helper lemmas for C12_source_same: the stored source of a decorated program is the stored source of
the same program written without any hint.
-/
import Paroxy.Proofs.HintsCore2
namespace Paroxy.Hints

variable {O : CharOracle}

theorem source_of_decorate (d : Decorated) (hy : Hyg O d) (p : Program)
    (h : getProgramFrom O (decorate d) = .ok p) : p.source = stripPy O (joinNL (base d)) := by
  have hws : ∀ L ∈ sortDedup (wholeLabels d), Clean O L := fun L hL => hy.whole L ((mem_sortDedup L _).mp hL)
  have ok' := okCode_centrifuged (sortDedup (wholeLabels d)) hws _ hy.ok hy.first hy.last
  obtain ⟨c, hc, _, hsrc⟩ := getProgramFrom_ok h
  rw [centrifugate_decorate d hy] at hc
  cases hc
  rw [hsrc]; exact removeHints_centrifuged _ _ ok'

/-- The program without its hints, as a decorated program that carries none. -/
def undecorated (d : Decorated) : Decorated := (codeLines d).map fun c => .code { code := c.code }

theorem codeLines_undecorated (d : Decorated) :
    codeLines (undecorated d) = (codeLines d).map fun c => { code := c.code } := by
  rw [codeLines_eq, undecorated, List.filterMap_map]
  exact congrFun List.filterMap_eq_map _

theorem wholeLabels_undecorated (d : Decorated) : wholeLabels (undecorated d) = [] := by
  rw [wholeLabels_eq, undecorated, List.filterMap_map]
  exact List.filterMap_eq_nil_iff.mpr fun _ _ => rfl

theorem hyg_undecorated (d : Decorated) (hy : Hyg O d) : Hyg O (undecorated d) := by
  have hok : ∀ c ∈ codeLines d, OkCode O ({ code := c.code } : CodeLine) := fun c hc =>
    ⟨(hy.ok c hc).nonl, (hy.ok c hc).nom, (hy.ok c hc).notrail, fun h => absurd rfl h, fun h hh => by simp at hh⟩
  refine ⟨?_, by simp [wholeLabels_undecorated], ?_, ?_, ?_⟩
  · rw [codeLines_undecorated]; exact List.forall_mem_map.mpr hok
  · rw [codeLines_undecorated]; simpa using hy.ne
  · rw [codeLines_undecorated]; exact forall_head?_map.mpr hy.first
  · rw [codeLines_undecorated]; exact forall_getLast?_map.mpr hy.last

theorem events_undecorated (d : Decorated) (L : Str) : events (undecorated d) L = [] := by
  have hw : (wholeLabels (undecorated d)).contains L = false := by simp [wholeLabels_undecorated]
  unfold events
  rw [hw, codeLines_undecorated]
  have key : ∀ (cs : List CodeLine) (n i : Nat),
      eventsFrom L false n i (cs.map fun c => ({ code := c.code } : CodeLine)) = [] := by
    intro cs n
    induction cs with
    | nil => intro i; rfl
    | cons c t ih => intro i; simp [eventsFrom, hintEvs, ih]
  exact key _ _ _

theorem prepare_plain (ls : List Str) (hne : ls ≠ [])
    (hnl : ∀ l ∈ ls, '\n' ∉ l) (hloose : ∀ l ∈ ls, noLoose O l = true)
    (htight : ∀ l ∈ ls, ∀ x, l.getLast? = some x → isSpaceRe O x = false)
    (hfirst : ∀ l, ls.head? = some l → l ≠ []) (hlast : ∀ l, ls.getLast? = some l → l ≠ []) :
    prepare O (joinNL ls) = joinNL ls := by
  have hnorm : ls.map (normLine O) = ls := by
    conv => rhs; rw [← List.map_id ls]
    apply List.map_congr_left
    intro l hl
    have hacc : scanAccepts O .idle l = false := by simpa [noLoose] using hloose l hl
    simpa [normLine] using normGo_noaccept_end (O := O) l .idle [] (by simp) hacc
  have hcore : coreLines ls = ls := by
    exact trimBoth_id (fun l : Str => l.isEmpty) ls (fun l hl => by simpa using hfirst l hl)
      (fun l hl => by simpa using hlast l hl)
  unfold prepare
  rw [splitNL_joinNL ls hne hnl, hnorm,
    trimEnds_joinNL ls (fun l hl => ⟨hnl l hl, htight l hl⟩) (by rw [hcore]; exact hne), hcore]

theorem getProgram_undecorated (d : Decorated) (hy : Hyg O d)
    (hloose : ∀ c ∈ codeLines d, noLoose O c.code = true) :
    getProgram O (joinNL (base d)) = .ok ⟨stripPy O (joinNL (base d)), [], []⟩ := by
  have hy' := hyg_undecorated d hy
  have hprep : prepare O (joinNL (base d)) = joinNL (base d) := by
    apply prepare_plain
    · simpa [base] using hy.ne
    · exact List.forall_mem_map.mpr fun c hc => (hy.ok c hc).nonl
    · exact List.forall_mem_map.mpr hloose
    · exact List.forall_mem_map.mpr fun c hc x hx => not_isSpacePy_of x ((hy.ok c hc).notrail x hx)
    · exact forall_head?_map.mpr hy.first
    · exact forall_getLast?_map.mpr hy.last
  obtain ⟨q, hq, hadd, hdel⟩ := getProgramFrom_decorate (O := O) (undecorated d) (fun _ => []) hy'
    (fun L => by rw [events_undecorated]; exact .nil)
    (fun L => by rw [events_undecorated]; intro i h; simp at h)
  have hsrc := source_of_decorate (undecorated d) hy' q hq
  have hdec : decorate (undecorated d) = joinNL (base d) := by
    simp [decorate, undecorated, base, List.map_map, Function.comp_def, renderLine, renderCode]
  have hbase : base (undecorated d) = base d := by
    simp [base, codeLines_undecorated, List.map_map, Function.comp_def]
  rw [hdec] at hq
  rw [hbase] at hsrc
  -- nothing is scheduled: every count is zero, and a schedule has no empty list
  have key : ∀ res : List Entry, (∀ L sp, (getResult res).count L sp = 0) → getResult res = [] := by
    intro res hz
    cases res with
    | nil => rfl
    | cons e t =>
      have := hz e.1 e.2
      rw [count_getResult] at this
      simp [spansOf] at this
  obtain ⟨c, _, hcol, _⟩ := getProgramFrom_ok hq
  obtain ⟨st, _, ha, hd⟩ := collectHints_ok hcol
  rw [getProgram, hprep, hq]
  obtain ⟨src, a, dd⟩ := q
  simp only at hsrc ha hd hadd hdel
  rw [hsrc, ha, hd, key _ (fun L sp => by simpa [ha] using hadd L sp), key _ (fun L sp => by simpa [hd] using hdel L sp)]

end Paroxy.Hints
