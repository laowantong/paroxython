/-
Reflection lemma for C08: a `PyExpr` only *compares* the four endpoints, so it has the same value on
two environments that order them alike. Every integer environment orders them like its rank
environment in {0,1,2,3}⁴, so agreement of two expressions on the 256 small environments implies
agreement on all of `Int⁴`.
-/
import Paroxy.Model.CompareSpans
namespace Paroxy

section
variable {σ ρ : Env} (h : ∀ a b, σ a < σ b ↔ ρ a < ρ b)
include h

theorem Op.eval_congr (o : Op) (a b : Var) : o.eval (σ a) (σ b) = o.eval (ρ a) (ρ b) := by
  have le : ∀ a b, σ a ≤ σ b ↔ ρ a ≤ ρ b := fun a b => by rw [← Int.not_lt, ← Int.not_lt, h]
  have eq : σ a = σ b ↔ ρ a = ρ b := by rw [Int.le_antisymm_iff, Int.le_antisymm_iff, le, le]
  cases o <;> simp only [Op.eval, h, le, eq]

theorem evalChain_congr (v : Var) (r : List (Op × Var)) : evalChain σ v r = evalChain ρ v r := by
  induction r generalizing v with
  | nil => rfl
  | cons p t ih => rw [evalChain, evalChain, Op.eval_congr h, ih]

/-- The value of an expression depends only on the order type of the four endpoints. -/
theorem PyExpr.eval_congr (e : PyExpr) : e.eval σ = e.eval ρ := by
  induction e with
  | cmp f r => exact evalChain_congr h f r
  | and a b iha ihb => rw [PyExpr.eval, iha, ihb, PyExpr.eval]
  | or a b iha ihb => rw [PyExpr.eval, iha, ihb, PyExpr.eval]
  | not a ih => rw [PyExpr.eval, ih, PyExpr.eval]
  | const b => rfl

end

/-- Enlarging a predicate by an element of the list strictly enlarges its count: split the list at
that element; both sides count monotonically and the element counts for `q` only. -/
theorem countP_lt_countP {α} {p q : α → Bool} {l : List α} {a : α} (ha : a ∈ l)
    (hpq : ∀ x ∈ l, p x → q x) (hp : p a = false) (hq : q a = true) : l.countP p < l.countP q := by
  obtain ⟨s, t, rfl⟩ := List.append_of_mem ha
  have hs := List.countP_mono_left (l := s) fun x hx => hpq x (List.mem_append_left _ hx)
  have ht := List.countP_mono_left (l := t) fun x hx =>
    hpq x (List.mem_append_right _ (List.mem_cons_of_mem _ hx))
  rw [List.countP_append, List.countP_append, List.countP_cons_of_pos hq,
    List.countP_cons_of_neg (by simp [hp])]
  omega

def allVars : List Var := [.x0, .x1, .y0, .y1]

theorem mem_allVars (v : Var) : v ∈ allVars := by cases v <;> simp [allVars]

/-- Rank of an endpoint = number of endpoints strictly below it. -/
def rank (ρ : Env) (v : Var) : Nat := allVars.countP fun w => ρ w < ρ v

theorem rank_lt (ρ : Env) (a b : Var) : rank ρ a < rank ρ b ↔ ρ a < ρ b := by
  constructor
  · -- otherwise `ρ b ≤ ρ a`, and whatever is below `b` is below `a`
    refine fun h => Int.not_le.mp fun hba => Nat.not_le.mpr h (List.countP_mono_left ?_)
    exact fun _ _ hw => decide_eq_true (Int.lt_of_lt_of_le (of_decide_eq_true hw) hba)
  · -- whatever is below `a` is below `b`; `a` itself is below `b` and not below `a`
    exact fun h => countP_lt_countP (mem_allVars a)
      (fun _ _ hw => decide_eq_true (Int.lt_trans (of_decide_eq_true hw) h))
      (decide_eq_false (Int.lt_irrefl _)) (decide_eq_true h)

/-- Environments over {0,1,2,3}. -/
def envOf (a b c d : Nat) : Env
  | .x0 => a | .x1 => b | .y0 => c | .y1 => d

def small : List Nat := [0, 1, 2, 3]

/-- Two expressions agree on the 256 small environments. -/
def agree (e1 e2 : PyExpr) : Bool :=
  small.all fun a => small.all fun b => small.all fun c => small.all fun d =>
    e1.eval (envOf a b c d) == e2.eval (envOf a b c d)

/-- `e1` on `(x, y)` agrees with `e2` on `(y, x)` on the 256 small environments. -/
def agreeSwap (e1 e2 : PyExpr) : Bool :=
  small.all fun a => small.all fun b => small.all fun c => small.all fun d =>
    e1.eval (envOf a b c d) == e2.eval (envOf c d a b)

theorem agree_sound (e1 e2 : PyExpr) (h : agree e1 e2 = true) (ρ : Env) :
    e1.eval ρ = e2.eval ρ := by
  -- the environment of the ranks orders the endpoints as `ρ` does
  have hr := fun e : PyExpr => e.eval_congr (σ := fun v => (rank ρ v : Int)) fun a b =>
    Int.ofNat_lt.trans (rank_lt ρ a b)
  have he : (fun v => (rank ρ v : Int)) =
      envOf (rank ρ .x0) (rank ρ .x1) (rank ρ .y0) (rank ρ .y1) := by funext v; cases v <;> rfl
  -- and it is one of the 256: an endpoint is not below itself, so at most three are
  have hs : ∀ v, rank ρ v ∈ small := fun v => (List.mem_range (n := 4)).mpr <|
    countP_lt_countP (q := fun _ => true) (mem_allVars v) (fun _ _ _ => rfl)
      (decide_eq_false (Int.lt_irrefl _)) rfl
  rw [← hr e1, ← hr e2, he]
  simp only [agree, List.all_eq_true, beq_iff_eq] at h
  exact h _ (hs .x0) _ (hs .x1) _ (hs .y0) _ (hs .y1)

/-- Conversely `agree` only tests instances of the equality. -/
theorem agree_of_eval_eq {e1 e2 : PyExpr} (h : ∀ ρ, e1.eval ρ = e2.eval ρ) : agree e1 e2 = true := by
  simp only [agree, List.all_eq_true, beq_iff_eq]
  exact fun a _ b _ c _ d _ => h _

def Var.swap : Var → Var
  | .x0 => .y0 | .x1 => .y1 | .y0 => .x0 | .y1 => .x1

def PyExpr.swap : PyExpr → PyExpr
  | .cmp f r => .cmp f.swap (r.map fun (o, v) => (o, v.swap))
  | .and a b => .and a.swap b.swap
  | .or a b => .or a.swap b.swap
  | .not a => .not a.swap
  | .const b => .const b

theorem evalChain_swap (ρ : Env) (v : Var) (r : List (Op × Var)) :
    evalChain ρ v.swap (r.map fun (o, w) => (o, w.swap)) = evalChain (ρ ∘ Var.swap) v r := by
  induction r generalizing v with
  | nil => rfl
  | cons p t ih => rw [List.map_cons, evalChain, evalChain, ih]; rfl

theorem PyExpr.eval_swap (e : PyExpr) (ρ : Env) : e.swap.eval ρ = e.eval (ρ ∘ Var.swap) := by
  induction e with
  | cmp f r => exact evalChain_swap ρ f r
  | and a b iha ihb => rw [PyExpr.swap, PyExpr.eval, iha, ihb, PyExpr.eval]
  | or a b iha ihb => rw [PyExpr.swap, PyExpr.eval, iha, ihb, PyExpr.eval]
  | not a ih => rw [PyExpr.swap, PyExpr.eval, ih, PyExpr.eval]
  | const b => rfl

theorem spanEnv_comp_swap (x y : Span) : spanEnv x y ∘ Var.swap = spanEnv y x := by
  funext v; cases v <;> rfl

end Paroxy
