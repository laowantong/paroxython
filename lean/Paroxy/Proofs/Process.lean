/-
The invariants of the shared process state: the SQL connection is empty at every program boundary, and the taxonomy
memo only holds values of the pure translation.
-/
import Paroxy.Model.Process
import Paroxy.Proofs.MakeDbDict
namespace Paroxy.Proc
open Paroxy Paroxy.DB

/-- At a program boundary: no main table, no sub-table left in the connection. -/
def SqlInv (s : SqlState) : Prop := s.t = none ∧ s.physical = []

/-- Inside a program: every physical sub-table is known (so that `delete` drops it). -/
def LoopInv (s : SqlState) : Prop := ∀ e ∈ s.physical, e.1 ∈ s.known

/-- The specification of `get_taxon_name_list`: a pure function of the label and of the taxonomy
*as loaded* (`lit0`). -/
def pureTranslate (E : Engines) (lit0 : List (Name × List Name)) (l : Name) : List Name :=
  if E.looksLikeTaxon l then [l] else (get? lit0 l).getD [] ++ E.compiled l

/-- The memo only holds specified values, and the lists of `literal_labels` not yet translated are
untouched. -/
def TaxoInv (E : Engines) (lit0 : List (Name × List Name)) (T : TaxoState) : Prop :=
  ∀ l, (∀ r, get? T.memo l = some r → r = pureTranslate E lit0 l) ∧
       (get? T.memo l = none → get? T.literal l = get? lit0 l)

def Inv (E : Engines) (lit0 : List (Name × List Name)) (S : State) : Prop :=
  SqlInv S.sql ∧ TaxoInv E lit0 S.taxo

theorem inv_init (E : Engines) (lit0 : List (Name × List Name)) : Inv E lit0 (init lit0) :=
  ⟨⟨rfl, rfl⟩, fun _ => ⟨fun _ hr => (nomatch hr), fun _ => rfl⟩⟩

theorem ensure_ok {s : SqlState} (h : LoopInv s) (pre : List Name) :
    ∃ s', s.ensure pre = .ok s' ∧ LoopInv s' ∧ s'.t = s.t := by
  fun_induction SqlState.ensure s pre with
  | case1 s => exact ⟨s, rfl, h, rfl⟩
  | case2 s n ns hk ih => exact ih h
  | case3 s n ns hk hp => exact absurd (let ⟨e, he, hen⟩ := List.mem_map.mp hp; hen ▸ h e he) hk
  | case4 s n ns hk hp ih =>
    refine ih fun e he => ?_
    simp only [List.mem_append, List.mem_singleton] at he ⊢
    exact he.imp (h e) fun he => by rw [he]

theorem queryLoop_ok (E : Engines) {s : SqlState} (h : LoopInv s) (qs : List (Name × List Name))
    (acc : List Label) : ∃ s' r, queryLoop E s qs acc = (s', .ok r) ∧ LoopInv s' := by
  induction qs generalizing s acc with
  | nil => exact ⟨s, acc, rfl, h⟩
  | cons q qs ih =>
    obtain ⟨qn, pre⟩ := q
    obtain ⟨s1, hs1, hl1, -⟩ := ensure_ok h pre
    unfold queryLoop
    rw [hs1]
    simp only
    split
    · exact ih hl1 acc
    · exact ih (s := s1.update _) hl1 _

theorem delete_sqlInv {s : SqlState} (h : LoopInv s) : SqlInv s.delete := by
  refine ⟨rfl, ?_⟩
  unfold SqlState.delete
  simp only
  rw [List.filter_eq_nil_iff]
  intro e he
  simp [h e he]

theorem create_of_inv {s : SqlState} (h : SqlInv s) (labels : List Label) :
    s.create labels = .ok { t := some labels, physical := [], known := [] } := by
  obtain ⟨t, ph, kn⟩ := s
  obtain ⟨ht, hp⟩ := h
  simp only at ht hp
  subst ht hp
  rfl

/-- From a boundary state, `ProgramParser.__call__` does not look at the previous hash state, nor at
anything of the SQL state; it leaves a boundary state, does not touch the taxonomy, and after a parsed non-empty
program the hash state is the one obtained from a reset counter. -/
theorem parseStep_spec (E : Engines) {S S' : State} (h : SqlInv S.sql) (h' : SqlInv S'.sql)
    (p : Program) :
    (parseStep E S p).2 = (parseStep E S' p).2 ∧ SqlInv (parseStep E S p).1.sql ∧
      (parseStep E S p).1.taxo = S.taxo ∧
      ∀ reprs, p.parsed = .tree reprs → (parseStep E S p).1.hash = (HashState.reset.callAll reprs).1 := by
  unfold parseStep parseStepG
  simp only [if_true]
  cases hp : p.parsed with
  | invalid e => exact ⟨rfl, h, rfl, nofun⟩
  | empty => exact ⟨rfl, h, rfl, nofun⟩
  | tree reprs =>
    simp only
    have hh : ∀ r, Parsed.tree reprs = .tree r → (HashState.reset.callAll reprs).1 = (HashState.reset.callAll r).1 :=
      fun r e => by cases e; rfl
    cases hr : p.regexLabels (HashState.reset.callAll reprs).2 with
    | error e => exact ⟨rfl, h, rfl, hh⟩
    | ok labels0 =>
      simp only [create_of_inv h, create_of_inv h']
      have hl : LoopInv { t := some labels0, physical := [], known := [] } := by
        intro e he; cases he
      obtain ⟨s2, r, hq, hl2⟩ := queryLoop_ok E hl E.queries labels0
      rw [hq]
      exact ⟨rfl, delete_sqlInv hl2, rfl, hh⟩

theorem parseStep_inv {E : Engines} {lit0 : List (Name × List Name)} {S : State} (h : Inv E lit0 S) (p : Program) :
    Inv E lit0 (parseStep E S p).1 :=
  let ⟨_, h1, h2, _⟩ := parseStep_spec E h.1 h.1 p
  ⟨h1, h2 ▸ h.2⟩

theorem get?_append_single {β : Type} (m : List (Name × β)) (l : Name) (r : β) (k : Name) :
    get? (m ++ [(l, r)]) k =
      match get? m k with
      | some v => some v
      | none => if l = k then some r else none := by
  induction m with
  | nil => simp [get?]
  | cons e t ih =>
    obtain ⟨k0, v0⟩ := e
    simp only [List.cons_append, get?_cons]
    by_cases h0 : k0 = k
    · simp [h0]
    · simp only [h0, if_false]; exact ih

/-- Recording the specified value of a label keeps the invariant; the entry of that label in `literal_labels` is then
free to change (it is never read again). -/
theorem taxoInv_record {E : Engines} {lit0 : List (Name × List Name)} {T : TaxoState} (h : TaxoInv E lit0 T)
    {l : Name} {r : List Name} (hr : r = pureTranslate E lit0 l)
    (lit' : List (Name × List Name)) (hlit : ∀ k, k ≠ l → get? lit' k = get? T.literal k) :
    TaxoInv E lit0 { literal := lit', memo := T.memo ++ [(l, r)] } := by
  intro k
  simp only [get?_append_single]
  cases hk : get? T.memo k with
  | some v => exact ⟨fun r' hr' => Option.some.inj hr' ▸ (h k).1 v hk, fun hn => (nomatch hn)⟩
  | none =>
    by_cases hlk : l = k
    · subst hlk
      simp only [if_true]
      exact ⟨fun r' hr' => Option.some.inj hr' ▸ hr, fun hn => (nomatch hn)⟩
    · simp only [hlk, if_false]
      exact ⟨fun r' hr' => (nomatch hr'), fun _ => (hlit k (Ne.symm hlk)).trans ((h k).2 hk)⟩

theorem translate_spec (E : Engines) {lit0 : List (Name × List Name)} {T : TaxoState}
    (h : TaxoInv E lit0 T) (l : Name) :
    (translate E T l).2 = pureTranslate E lit0 l ∧ TaxoInv E lit0 (translate E T l).1 := by
  fun_cases translate E T l
  case case1 r hm => exact ⟨(h l).1 r hm, h⟩
  case case2 hm ht =>
    have hv : [l] = pureTranslate E lit0 l := by simp [pureTranslate, ht]
    exact ⟨hv, taxoInv_record h hv _ (fun _ _ => rfl)⟩
  case case3 hm ht lit hl _ =>
    have hv : lit ++ E.compiled l = pureTranslate E lit0 l := by simp [pureTranslate, ht, ← (h l).2 hm, hl]
    exact ⟨hv, taxoInv_record h hv _ (fun k hk => by rw [get?_set, if_neg hk])⟩
  case case4 hm ht hl _ =>
    have hv : E.compiled l = pureTranslate E lit0 l := by simp [pureTranslate, ht, ← (h l).2 hm, hl]
    exact ⟨hv, taxoInv_record h hv _ (fun _ _ => rfl)⟩

theorem translateAll_spec (E : Engines) {lit0 : List (Name × List Name)} {T : TaxoState}
    (h : TaxoInv E lit0 T) (ls : List Label) :
    (translateAll E T ls).2 = ls.map (fun l => (l, pureTranslate E lit0 l.name)) ∧
      TaxoInv E lit0 (translateAll E T ls).1 := by
  induction ls generalizing T with
  | nil => exact ⟨rfl, h⟩
  | cons l ls ih =>
    obtain ⟨h1, h2⟩ := translate_spec E h l.name
    obtain ⟨h3, h4⟩ := ih h2
    unfold translateAll
    simp only [List.map_cons]
    exact ⟨by rw [h1, h3], h4⟩

theorem taxaStep_spec (E : Engines) {lit0 : List (Name × List Name)} {S : State}
    (h : TaxoInv E lit0 S.taxo) (labels : List Label) :
    (taxaStep E S labels).2 = E.assemble (labels.map fun l => (l, pureTranslate E lit0 l.name)) ∧
      TaxoInv E lit0 (taxaStep E S labels).1.taxo ∧ (taxaStep E S labels).1.sql = S.sql := by
  obtain ⟨h1, h2⟩ := translateAll_spec E h labels
  unfold taxaStep
  simp only
  exact ⟨by rw [h1], h2, trivial⟩

theorem step_spec (E : Engines) {lit0 : List (Name × List Name)} {S : State} (h : Inv E lit0 S) (p : Program) :
    Inv E lit0 (step E S p).1 ∧ (step E S p).1.hash = (parseStep E S p).1.hash ∧
    (step E S p).2 = match (parseStep E (init lit0) p).2 with
      | .error e => .error e
      | .ok labels => .ok (labels, E.assemble (labels.map fun l => (l, pureTranslate E lit0 l.name))) := by
  have hout := (parseStep_spec E h.1 (inv_init E lit0).1 p).1
  have h1 := parseStep_inv h p
  unfold step stepG
  rw [show parseStepG E true S p = parseStep E S p from rfl, ← hout]
  split
  · rename_i S1 e heq
    rw [heq] at h1 ⊢
    exact ⟨h1, rfl, rfl⟩
  · rename_i S1 labels heq
    rw [heq] at h1 ⊢
    obtain ⟨h3, h4, h5⟩ := taxaStep_spec E h1.2 labels
    exact ⟨⟨h5 ▸ h1.1, h4⟩, rfl, congrArg (fun t => Except.ok (labels, t)) h3⟩
end Paroxy.Proc
