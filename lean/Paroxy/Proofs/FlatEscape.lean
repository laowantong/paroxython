/-
C15: the escaping of `_pos=` in terminal values (fix b1d74a8). Dumping with escaping is dumping the escaped tree, and
the line of an escaped value never looks like a position line.
-/
import Paroxy.Proofs.FlatAlias
namespace Paroxy.Flat

theorem length_escapeItems : ∀ xs : List Val, (escapeItems xs).length = xs.length
  | [] => rfl
  | x :: xs => by simp [escapeItems, length_escapeItems xs]

mutual
theorem dumpPE_eq (h : Str → Str) : ∀ (v : Val) (pre path : Str),
    dumpPE h pre path v = dumpP h pre path (escapeTree v)
  | .node ty e r ln fs, pre, path => by
    simp only [dumpPE, dumpP, escapeTree, dumpPEFields_eq h fs pre path 0]
  | .list q xs, pre, path => by
    have hl := length_escapeItems xs
    simp only [dumpPE, dumpP, escapeTree, dumpPEItems_eq h xs pre path 1, hl]
  | .scalar r k, pre, path => by simp [dumpPE, dumpP, escapeTree]
theorem dumpPEFields_eq (h : Str → Str) : ∀ (fs : List (Str × Val)) (pre path : Str) (i : Nat),
    dumpPEFields h pre path i fs = dumpPFields h pre path i (escapeFields fs)
  | [], _, _, _ => rfl
  | (n, v) :: rest, pre, path, i => by
    simp only [dumpPEFields, dumpPFields, escapeFields, dumpPE_eq h v, dumpPEFields_eq h rest pre path (i + 1)]
theorem dumpPEItems_eq (h : Str → Str) : ∀ (xs : List Val) (pre path : Str) (i : Nat),
    dumpPEItems h pre path i xs = dumpPItems h pre path i (escapeItems xs)
  | [], _, _, _ => rfl
  | v :: rest, pre, path, i => by
    simp only [dumpPEItems, dumpPItems, escapeItems, dumpPE_eq h v, dumpPEItems_eq h rest pre path (i + 1)]
end

theorem prefix_of_prefix_escapePos : ∀ (P t : Str), '_' ∉ P → P <+: escapePos t → P <+: t
  | [], _, _, _ => List.nil_prefix
  | a :: P, t, hP, h => by
    have ha : a ≠ '_' := fun e => hP (by simp [e])
    have hP' : '_' ∉ P := fun e => hP (List.mem_cons_of_mem _ e)
    unfold escapePos at h
    split at h
    · simp only [List.cons_prefix_cons] at h
      exact absurd h.1 ha
    · rename_i c t' _
      simp only [List.cons_prefix_cons] at h ⊢
      exact ⟨h.1, prefix_of_prefix_escapePos P t' hP' h.2⟩
    · simp at h

theorem escapePos_no_pos : ∀ r : Str, hasInfix posMark (escapePos r) = false := by
  intro r
  fun_induction escapePos r with
  | case1 t ih =>
    simp [hasInfix, List.isPrefixOf, ih]
  | case2 c t hne ih =>
    simp only [hasInfix, ih, Bool.or_false]
    cases hb : posMark.isPrefixOf (c :: escapePos t) with
    | false => rfl
    | true =>
      rw [List.isPrefixOf_iff_prefix] at hb
      simp only [posMark, List.cons_prefix_cons] at hb
      have := prefix_of_prefix_escapePos cs!"pos=" t (by decide) hb.2
      obtain ⟨t', ht'⟩ := this
      exact absurd (hne t' hb.1.symm ht'.symm) id
  | case3 => simp [hasInfix, posMark]

theorem not_posLike_escaped {pre : Str} (r : Str) (hpre : '=' ∉ pre) (hsuf : ¬ posKey <:+ pre) :
    isPosLike (scalarLine pre (escapePos r)) = false := by
  cases hb : isPosLike (scalarLine pre (escapePos r)) with
  | false => rfl
  | true =>
    obtain ⟨a, b, _, h, _⟩ := (isPosLike_iff _).mp hb
    have h' : (a ++ posKey) ++ '=' :: b = pre ++ '=' :: escapePos r := by
      rw [← show scalarLine pre (escapePos r) = pre ++ '=' :: escapePos r from rfl, h]; simp
    rcases key_in_keyval hpre (by decide) h' with h1 | h1
    · exact absurd h1 hsuf
    · exact absurd ((escapePos_no_pos r).symm.trans h1) Bool.false_ne_true

end Paroxy.Flat
