/-
`s.split(sep)` for a one-character separator and `sep.join(parts)` (`Dedup.splitOn`, `Dedup.join`): each undoes
the other, and how they go through `++`.
-/
import Paroxy.Model.Dedup
namespace Paroxy.Dedup
set_option linter.unusedSectionVars false
variable {α : Type} [DecidableEq α]

theorem splitOn_ne_nil (sep : α) (l : List α) : splitOn sep l ≠ [] := by
  induction l with
  | nil => simp [splitOn]
  | cons c t ih =>
    simp only [splitOn]
    split
    · simp
    · split <;> simp

theorem join_cons_head (sep c : α) (h : List α) (r : List (List α)) :
    join sep ((c :: h) :: r) = c :: join sep (h :: r) := by
  cases r <;> rfl

theorem join_nil_cons (sep : α) (r : List (List α)) (hr : r ≠ []) :
    join sep ([] :: r) = sep :: join sep r := by
  cases r with
  | nil => exact absurd rfl hr
  | cons a t => rfl

/-- The two cases of `splitOn` on `c :: t`, the split of `t` being named. -/
theorem splitOn_cons (sep c : α) (t : List α) : ∃ h r, splitOn sep t = h :: r ∧
    splitOn sep (c :: t) = if c = sep then [] :: h :: r else (c :: h) :: r := by
  obtain ⟨h, r, ht⟩ := List.exists_cons_of_ne_nil (splitOn_ne_nil sep t)
  exact ⟨h, r, ht, by simp only [splitOn, ht]⟩

theorem join_splitOn (sep : α) (l : List α) : join sep (splitOn sep l) = l := by
  induction l with
  | nil => rfl
  | cons c t ih =>
    obtain ⟨h, r, ht, hc⟩ := splitOn_cons sep c t
    rw [ht] at ih
    rw [hc]
    split
    · next heq => rw [join_nil_cons sep _ (by simp), ih, heq]
    · rw [join_cons_head, ih]

theorem splitOn_injective (sep : α) {a b : List α} (h : splitOn sep a = splitOn sep b) : a = b := by
  rw [← join_splitOn sep a, ← join_splitOn sep b, h]

theorem sep_not_mem_splitOn (sep : α) (l : List α) : ∀ s ∈ splitOn sep l, sep ∉ s := by
  induction l with
  | nil => intro s hs; simp [splitOn] at hs; simp [hs]
  | cons c t ih =>
    obtain ⟨h, r, ht, hc⟩ := splitOn_cons sep c t
    rw [ht] at ih
    rw [hc]
    split
    · exact List.forall_mem_cons.mpr ⟨by simp, ih⟩
    · next hne =>
      exact List.forall_mem_cons.mpr
        ⟨by simp [Ne.symm hne, ih h (by simp)], fun s hs => ih s (by simp [hs])⟩

theorem splitOn_of_not_mem (sep : α) (a : List α) (ha : sep ∉ a) : splitOn sep a = [a] := by
  induction a with
  | nil => rfl
  | cons c a' ih =>
    simp only [List.mem_cons, not_or] at ha
    simp only [splitOn, Ne.symm ha.1, if_false, ih ha.2]

theorem splitOn_append_cons (sep : α) (a t : List α) :
    splitOn sep (a ++ sep :: t) = splitOn sep a ++ splitOn sep t := by
  induction a with
  | nil => simp [splitOn]
  | cons c a ih =>
    obtain ⟨h, r, ha, -⟩ := splitOn_cons sep c a
    simp only [List.cons_append, splitOn, ih, ha]
    split <;> rfl

theorem splitOn_append_sep (sep : α) (a t : List α) (ha : sep ∉ a) :
    splitOn sep (a ++ sep :: t) = a :: splitOn sep t := by
  rw [splitOn_append_cons, splitOn_of_not_mem sep a ha, List.singleton_append]

theorem splitOn_snoc_sep (sep : α) (m : List α) : splitOn sep (m ++ [sep]) = splitOn sep m ++ [[]] :=
  splitOn_append_cons sep m []

theorem splitOn_join (sep : α) (ls : List (List α)) (hne : ls ≠ []) (h : ∀ s ∈ ls, sep ∉ s) :
    splitOn sep (join sep ls) = ls := by
  induction ls with
  | nil => exact absurd rfl hne
  | cons a rest ih =>
    cases rest with
    | nil => exact splitOn_of_not_mem sep a (h a (by simp))
    | cons b r =>
      simp only [join]
      rw [splitOn_append_sep sep a _ (h a (by simp)), ih (by simp) fun s hs => h s (by simp [hs])]

theorem join_append (sep : α) (l₁ l₂ : List (List α)) (h₁ : l₁ ≠ []) (h₂ : l₂ ≠ []) :
    join sep (l₁ ++ l₂) = join sep l₁ ++ sep :: join sep l₂ := by
  induction l₁ with
  | nil => exact absurd rfl h₁
  | cons a rest ih =>
    cases rest with
    | nil =>
      cases l₂ with
      | nil => exact absurd rfl h₂
      | cons b r => rfl
    | cons b r =>
      simp only [List.cons_append, join] at ih ⊢
      rw [ih (by simp)]
      simp

end Paroxy.Dedup
