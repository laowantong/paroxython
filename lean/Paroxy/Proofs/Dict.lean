import Paroxy.Model.CompareSpans
namespace Paroxy

theorem dictGet?_mem {β : Type} {d : List (Codes × β)} {k : Codes} {v : β}
    (h : dictGet? d k = some v) : (k, v) ∈ d := by
  induction d with
  | nil => cases h
  | cons p t ih =>
    obtain ⟨k', v'⟩ := p
    rw [dictGet?] at h
    split at h
    · rename_i hk; cases h; cases hk; exact List.mem_cons_self
    · exact List.mem_cons_of_mem _ (ih h)

theorem dictGet?_of_key_mem {β : Type} {d : List (Codes × β)} {k : Codes}
    (h : k ∈ d.map (·.1)) : ∃ v, dictGet? d k = some v := by
  induction d with
  | nil => cases h
  | cons p t ih =>
    obtain ⟨k', v'⟩ := p
    rw [dictGet?]
    split
    · exact ⟨v', rfl⟩
    · rename_i hk; exact ih ((List.mem_cons.mp h).resolve_left fun e => hk e.symm)

theorem dictGet?_key_mem {β : Type} {d : List (Codes × β)} {k : Codes} {v : β}
    (h : dictGet? d k = some v) : k ∈ d.map (·.1) :=
  List.mem_map.2 ⟨(k, v), dictGet?_mem h, rfl⟩

theorem dictGet?_of_mem_nodup {β : Type} {d : List (Codes × β)} {k : Codes} {v : β}
    (nd : (d.map (·.1)).Nodup) (h : (k, v) ∈ d) : dictGet? d k = some v := by
  induction d with
  | nil => cases h
  | cons p t ih =>
    obtain ⟨k', v'⟩ := p
    simp only [List.map_cons, List.nodup_cons] at nd
    unfold dictGet?
    rcases List.mem_cons.1 h with h | h
    · cases h; simp
    · by_cases hk : k' = k
      · subst hk
        exact absurd (List.mem_map.2 ⟨(k', v), h, rfl⟩) nd.1
      · simp only [hk, if_false]
        exact ih nd.2 h

theorem mem_getD_dictGet? {d : List (Codes × List Codes)} {k x : Codes}
    (h : x ∈ (dictGet? d k).getD []) : ∃ l, dictGet? d k = some l ∧ x ∈ l := by
  cases hd : dictGet? d k with
  | none => rw [hd] at h; cases h
  | some l => rw [hd] at h; exact ⟨l, rfl, h⟩

theorem dictGet?_append_single {β} (d : List (Codes × β)) (k : Codes) (v : β) (k' : Codes) (x : β) :
    dictGet? (d ++ [(k, v)]) k' = some x ↔
      dictGet? d k' = some x ∨ (dictGet? d k' = none ∧ k = k' ∧ v = x) := by
  induction d with
  | nil => simp [dictGet?]
  | cons p t ih =>
    obtain ⟨a, b⟩ := p
    simp only [List.cons_append, dictGet?]
    split
    · simp
    · exact ih

/-- The codes of a string literal, read off its characters (`String.toList` on a literal decodes its
UTF-8 bytes, which is slow to evaluate). -/
theorem codesOf_ofList (l : List Char) : codesOf (String.ofList l) = l.map Char.toNat := by
  rw [codesOf, String.toList_ofList]

end Paroxy
