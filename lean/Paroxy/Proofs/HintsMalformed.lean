/-
Helper lemmas for C12_malformed: an accepted run of `collect_hints` means that every token was
accepted by the token regex and that, label by label, the marks are balanced; and `collect_hints`
raises nothing else than `ValueError`.
-/
import Paroxy.Proofs.HintsSched
namespace Paroxy.Hints

variable {O : CharOracle}

def depth1 (s : St1) : Nat := s.sa.length + s.sd.length

def Ev.isOpn : Ev → Bool
  | .opn _ _ => true
  | _ => false

def Ev.isCls : Ev → Bool
  | .cls _ => true
  | _ => false

theorem step1_depth (s s' : St1) (e : Ev) (h : step1 s e = .ok s') :
    depth1 s' + (if e.isCls then 1 else 0) = depth1 s + (if e.isOpn then 1 else 0) := by
  cases e with
  | one b i => cases b <;> (simp only [step1] at h; cases h; simp [depth1, Ev.isCls, Ev.isOpn])
  | opn b i => cases b <;> (simp only [step1] at h; cases h; simp [depth1, Ev.isCls, Ev.isOpn] <;> omega)
  | cls j =>
    simp only [step1] at h
    cases hsa : s.sa with
    | nil =>
      cases hsd : s.sd with
      | nil => simp [hsa, hsd] at h
      | cons y t =>
        simp [hsa, hsd] at h; cases h
        simp [depth1, Ev.isCls, Ev.isOpn, hsa, hsd]
    | cons x t =>
      cases hsd : s.sd with
      | nil =>
        simp [hsa, hsd] at h; cases h
        simp [depth1, Ev.isCls, Ev.isOpn, hsa, hsd] <;> omega
      | cons y t2 =>
        simp only [hsa, hsd, List.head?_cons] at h
        split at h
        · cases h; simp [depth1, Ev.isCls, Ev.isOpn, hsa, hsd] <;> omega
        · cases h; simp [depth1, Ev.isCls, Ev.isOpn, hsa, hsd] <;> omega

theorem Tok.ev_kind (k : Tok) (i : Nat) (h : k.illegal = false) :
    (k.ev i).isOpn = k.isOpen k.label ∧ (k.ev i).isCls = k.isClose k.label := by
  obtain ⟨b, L, a⟩ := k
  simp only [Tok.isOpen, Tok.isClose, beq_self_eq_true, Bool.and_true]
  cases b <;> cases a <;> first | exact ⟨rfl, rfl⟩ | cases h

theorem stepTok_classify (i : Nat) (st : Bufs) (t : Str) :
    (stepTok O) i st t = match (classify O) t with
      | none => .error .valueError
      | some k => stepEv i st k := by
  unfold stepTok classify
  cases (matchLabel O) t with
  | none => rfl
  | some p => obtain ⟨b, L, a⟩ := p; rfl

theorem stepEv_of_stepTok {i : Nat} {st st' : Bufs} {t : Str} (h : (stepTok O) i st t = .ok st') :
    ∃ k, (classify O) t = some k ∧ stepEv i st k = .ok st' := by
  rw [stepTok_classify] at h
  cases hk : (classify O) t with
  | none => rw [hk] at h; cases h
  | some k => rw [hk] at h; exact ⟨k, rfl, h⟩

theorem stepEv_illegal (i : Nat) (st : Bufs) (k : Tok) (h : k.illegal = true) :
    stepEv i st k = .error .valueError := by
  obtain ⟨b, L, a⟩ := k
  cases b <;> cases a <;> simp_all [Tok.illegal, stepEv]

def depth (L : Str) (st : Bufs) : Nat := depth1 (proj L st)

theorem stepTok_ok (i : Nat) (st st' : Bufs) (t : Str) (h : (stepTok O) i st t = .ok st') :
    ∃ k, (classify O) t = some k ∧ k.illegal = false ∧
      ∀ L, depth L st' + (if k.isClose L then 1 else 0) = depth L st + (if k.isOpen L then 1 else 0) := by
  obtain ⟨k, hk, h⟩ := stepEv_of_stepTok h
  have hill : k.illegal = false := by
    cases hi : k.illegal with
    | false => rfl
    | true => rw [stepEv_illegal i st k hi] at h; cases h
  refine ⟨k, hk, hill, fun L => ?_⟩
  by_cases hL : L = k.label
  · subst hL
    have hstep : step1 (proj k.label st) (k.ev i) = .ok (proj k.label st') := by
      rw [step1_proj_tok i st k hill, h]; rfl
    have := step1_depth _ _ _ hstep
    rwa [(Tok.ev_kind k i hill).1, (Tok.ev_kind k i hill).2] at this
  · simp [depth, stepEv_other h hL, Tok.isOpen, Tok.isClose, Ne.symm hL]

theorem tokCount_cons (f : Tok → Bool) (p : Nat × Str) (toks : List (Nat × Str)) :
    (tokCount O) f (p :: toks) =
      (match (classify O) p.2 with | some k => if f k then 1 else 0 | none => 0) + (tokCount O) f toks := by
  unfold tokCount
  rw [List.countP_cons]
  cases (classify O) p.2 with
  | none => simp
  | some k => cases f k <;> simp <;> omega

theorem runToks_ok (toks : List (Nat × Str)) :
    ∀ st st', (runToks O) st toks = .ok st' →
      (∀ p ∈ toks, (rejected O) p.2 = false) ∧
      ∀ L, depth L st' + (closesOf O) L toks = depth L st + (opensOf O) L toks ∧
        ∀ pre, pre <+: toks → (closesOf O) L pre ≤ depth L st + (opensOf O) L pre := by
  induction toks with
  | nil =>
    intro st st' h
    simp only [runToks] at h; cases h
    refine ⟨by simp, fun L => ⟨by simp [closesOf, opensOf, tokCount], fun pre hpre => ?_⟩⟩
    have : pre = [] := List.prefix_nil.mp hpre
    subst this; simp [closesOf, opensOf, tokCount]
  | cons p rest ih =>
    obtain ⟨i, t⟩ := p
    intro st st' h
    simp only [runToks] at h
    split at h
    · rename_i st1 hst1
      obtain ⟨k, hk, hill, hd⟩ := stepTok_ok i st st1 t hst1
      obtain ⟨hrej, hcount⟩ := ih st1 st' h
      refine ⟨?_, fun L => ?_⟩
      · intro q hq
        rcases List.mem_cons.mp hq with rfl | hq
        · simp [rejected, hk, hill]
        · exact hrej q hq
      · obtain ⟨h1, h2⟩ := hcount L
        have hdL := hd L
        refine ⟨?_, fun pre hpre => ?_⟩
        · simp only [closesOf, opensOf, tokCount_cons, hk] at h1 ⊢
          omega
        · cases pre with
          | nil => simp [closesOf, opensOf, tokCount]
          | cons q pre' =>
            obtain ⟨rfl, hpre'⟩ := List.cons_prefix_cons.mp hpre
            have := h2 pre' hpre'
            simp only [closesOf, opensOf, tokCount_cons, hk] at this ⊢
            omega
    · cases h

theorem depth_nil (L : Str) : depth L {} = 0 := rfl

theorem collectToks_ok {toks : List (Nat × Str)} {r : Sched × Sched} (h : (collectToks O) toks = .ok r) :
    ∃ st, (runToks O) {} toks = .ok st ∧ st.add.stack = [] ∧ st.del.stack = [] ∧
      r = (getResult st.add.result, getResult st.del.result) := by
  unfold collectToks at h
  split at h
  · rename_i st hst
    unfold finish at h
    split at h
    · cases h
    · split at h
      · cases h
      · rename_i ha hd
        cases h
        exact ⟨st, hst, Decidable.not_not.mp ha, Decidable.not_not.mp hd, rfl⟩
  · cases h

theorem collectToks_ok_not_malformed (toks : List (Nat × Str)) (r : Sched × Sched)
    (h : (collectToks O) toks = .ok r) : ¬ (Malformed O) toks := by
  obtain ⟨st, hrun, ha, hd, -⟩ := collectToks_ok h
  obtain ⟨hrej, hcount⟩ := runToks_ok toks {} st hrun
  rintro (⟨p, hp, hr⟩ | ⟨L, hL⟩)
  · rw [hrej p hp] at hr; cases hr
  · obtain ⟨h1, h2⟩ := hcount L
    rw [show depth L st = 0 by simp [depth, depth1, proj, ha, hd, linesOf], depth_nil] at h1
    rcases hL with ⟨pre, hpre, hlt⟩ | hne
    · have := h2 pre hpre
      rw [depth_nil] at this; omega
    · omega

theorem stepTok_error_class (i : Nat) (st : Bufs) (t : Str) (e : Err) (h : (stepTok O) i st t = .error e) :
    e = .valueError := by
  rw [stepTok_classify] at h
  cases hk : (classify O) t with
  | none => simp [hk] at h; exact h.symm
  | some k =>
    simp only [hk] at h
    obtain ⟨b, L, a⟩ := k
    cases b <;> cases a <;> simp only [stepEv] at h <;> try (cases h)
    · split at h <;> try (cases h)
      · rfl
      · split at h <;> cases h
    · rfl

theorem runToks_error_class (toks : List (Nat × Str)) :
    ∀ st e, (runToks O) st toks = .error e → e = .valueError := by
  induction toks with
  | nil => intro st e h; simp [runToks] at h
  | cons p rest ih =>
    obtain ⟨i, t⟩ := p
    intro st e h
    simp only [runToks] at h
    split at h
    · exact ih _ e h
    · rename_i e' he; cases h; exact stepTok_error_class i st t _ he

theorem collectToks_error_value (toks : List (Nat × Str)) (e : Err)
    (h : (collectToks O) toks = .error e) : e = .valueError := by
  unfold collectToks at h
  cases hrun : (runToks O) {} toks with
  | error e' =>
    simp only [hrun] at h; cases h
    exact runToks_error_class toks {} e hrun
  | ok st =>
    simp only [hrun] at h
    unfold finish at h
    split at h
    · cases h; rfl
    · split at h
      · cases h; rfl
      · cases h

theorem malformed_of_B (toks : List (Nat × Str)) (h : (malformedB O) toks = true) : (Malformed O) toks := by
  simp only [malformedB, Bool.or_eq_true, List.any_eq_true] at h
  rcases h with ⟨p, hp, hr⟩ | ⟨L, _, hL⟩
  · exact Or.inl ⟨p, hp, hr⟩
  · refine Or.inr ⟨L, ?_⟩
    simp only [unbalancedB, Bool.or_eq_true, List.any_eq_true, decide_eq_true_eq, bne_iff_ne] at hL
    rcases hL with ⟨n, _, hn⟩ | hne
    · exact Or.inl ⟨toks.take n, List.take_prefix n toks, hn⟩
    · exact Or.inr hne

end Paroxy.Hints
