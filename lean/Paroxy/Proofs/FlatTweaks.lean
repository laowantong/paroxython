/-
C15: the lines of a dump as `key=value` texts, and the three line-local passes (`unquote`, `suppress_kinds`,
`suppress_posonlyargs`) as tree-level tweaks. Every line of a dump is `K=V` with no `=` in `K`; each pass tests
whether `K` ends with a literal (and something about `V`), so what has to be known of the dump is which literals
can end the key `pre ++ m` of a structural line (`m` one of `/_type`, `/_hash`, `/_pos`, `/_length`).
-/
import Paroxy.Spec.FlatTweaks
import Paroxy.Proofs.FlatHash
import Paroxy.Proofs.NodeFeature
namespace Paroxy.Flat

theorem keyPart_keyval (K V : Str) (h : '=' ∉ K) : keyPart (K ++ '=' :: V) = K :=
  takeWhile_ne_append '=' K ('=' :: V) h (by simp)

theorem drop_keyPart_keyval (K V : Str) (h : '=' ∉ K) :
    (K ++ '=' :: V).drop (keyPart (K ++ '=' :: V)).length = '=' :: V := by
  rw [keyPart_keyval K V h]; exact List.drop_left

theorem not_mem_append_lit {pre lit : Str} {c : Char} (h1 : c ∉ pre) (h2 : c ∉ lit) : c ∉ pre ++ lit :=
  List.not_mem_append h1 h2

theorem eq_not_mem_subPath {path : Str} (i : Nat) (h : '=' ∉ path) : '=' ∉ subPath path i := by
  simp only [subPath, List.mem_append, List.mem_singleton, not_or]
  exact ⟨⟨h, eq_not_mem_dec i⟩, by decide⟩

theorem eq_not_mem_subPre {pre n : Str} (h : '=' ∉ pre) (hn : '=' ∉ n) : '=' ∉ subPre pre n := by
  simp only [subPre, List.mem_append, List.mem_cons, not_or]; exact ⟨h, by decide, hn⟩

theorem subPre_not_empty (pre n : Str) : (!(subPre pre n).isEmpty) = true := by
  simp [subPre]

/-- The `_hash` / `_pos` lines of a node. -/
def hpLines (h : Str → Str) (pre path : Str) (e : Bool) (r : Str) (ln : Option Nat) : List Str :=
  (if e then [hashLine pre (h r)] else []) ++
    (match ln with
      | some n => [posLine pre n path]
      | none => [])

theorem dumpP_node_eq (h : Str → Str) (pre path ty : Str) (e : Bool) (r : Str) (ln : Option Nat)
    (fs : List (Str × Val)) :
    dumpP h pre path (.node ty e r ln fs) = typeLine pre ty :: (hpLines h pre path e r ln ++ dumpPFields h pre path 0 fs) :=
  rfl

theorem forall_hpLines {P : Str → Prop} {h : Str → Str} {pre path r : Str} (hH : P (hashLine pre (h r)))
    (hP : ∀ n, P (posLine pre n path)) (e : Bool) (ln : Option Nat) : ∀ l ∈ hpLines h pre path e r ln, P l := by
  intro l hl
  cases e <;> cases ln <;> simp [hpLines] at hl
  · exact hl ▸ hP _
  · exact hl ▸ hH
  · rcases hl with rfl | rfl
    · exact hH
    · exact hP _

theorem hpLines_ne_nil (h : Str → Str) (pre path : Str) (e : Bool) (r : Str) (ln : Option Nat) :
    ∀ l ∈ hpLines h pre path e r ln, l ≠ [] :=
  forall_hpLines (by simp [hashLine]) (fun n => by simp [posLine]) e ln

/-- `K` ends with `q` and has something before it (the regular expression `.+q` up to the end of `K`). -/
def EndsMore (q K : Str) : Prop := ∃ X, X ≠ [] ∧ K = X ++ q

theorem endsMore_iff {q K : Str} : q <:+ K ∧ q.length < K.length ↔ EndsMore q K := by
  constructor
  · rintro ⟨⟨X, rfl⟩, hlen⟩
    refine ⟨X, ?_, rfl⟩
    rintro rfl
    simp at hlen
  · rintro ⟨X, hX, rfl⟩
    have : 0 < X.length := List.length_pos_iff.mpr hX
    exact ⟨⟨X, rfl⟩, by simp only [List.length_append]; omega⟩

abbrev Apart (q m : Str) : Prop := ¬ q <:+ m ∧ ¬ m <:+ q

theorem EndsMore.suffix {q K : Str} (h : EndsMore q K) : q <:+ K :=
  let ⟨X, _, hX⟩ := h; ⟨X, hX.symm⟩

theorem endsMore_append_right {p m pre : Str} : EndsMore (p ++ m) (pre ++ m) ↔ EndsMore p pre := by
  constructor
  · rintro ⟨X, hX, h⟩
    exact ⟨X, hX, List.append_cancel_right (by rw [h, List.append_assoc])⟩
  · rintro ⟨X, hX, rfl⟩
    exact ⟨X, hX, List.append_assoc ..⟩

theorem endsMore_self {m pre : Str} : EndsMore m (pre ++ m) ↔ pre ≠ [] := by
  constructor
  · rintro ⟨X, hX, h⟩
    exact List.append_cancel_right h ▸ hX
  · exact fun h => ⟨pre, h, rfl⟩

theorem keyval_eq_append_iff {q T K V X : Str} (hK : '=' ∉ K) (hV : '=' ∉ V) :
    K ++ '=' :: V = X ++ (q ++ '=' :: T) ↔ K = X ++ q ∧ V = T := by
  constructor
  · intro h
    rw [← List.append_assoc] at h
    exact split_at_unique hK hV h.symm |>.imp Eq.symm Eq.symm
  · rintro ⟨rfl, rfl⟩
    exact List.append_assoc ..

theorem suffix_keyval_iff {q T K V : Str} (hK : '=' ∉ K) (hV : '=' ∉ V) :
    (q ++ '=' :: T) <:+ K ++ '=' :: V ↔ q <:+ K ∧ V = T := by
  constructor
  · rintro ⟨X, hX⟩
    obtain ⟨h1, h2⟩ := (keyval_eq_append_iff hK hV).mp hX.symm
    exact ⟨⟨X, h1.symm⟩, h2⟩
  · rintro ⟨⟨X, hX⟩, h2⟩
    exact ⟨X, ((keyval_eq_append_iff hK hV).mpr ⟨hX.symm, h2⟩).symm⟩

/-- The line test `p` accepts a `key=value` line only if the key ends with the literal `q`. Such a test fails on
the structural lines of a dump whose marker is apart from `q`. -/
def KeyEnds (p : Str → Bool) (q : Str) : Prop :=
  ∀ ⦃K V : Str⦄, '=' ∉ K → '=' ∉ V → p (K ++ '=' :: V) = true → q <:+ K

theorem KeyEnds.marker {p : Str → Bool} {q : Str} (hp : KeyEnds p q) {pre m V : Str} (h : Apart q m)
    (hK : '=' ∉ pre ++ m) (hV : '=' ∉ V) : p ((pre ++ m) ++ '=' :: V) = false :=
  -- `q` and `m` both end the key, so one of them ends the other
  Bool.eq_false_iff.mpr fun hb =>
    (List.suffix_or_suffix_of_suffix (hp hK hV hb) (List.suffix_append pre m)).elim h.1 h.2

theorem KeyEnds.typeLine {p : Str → Bool} {q : Str} (hp : KeyEnds p q) (h : Apart q tyKey) {pre ty : Str}
    (hpre : '=' ∉ pre) (hty : '=' ∉ ty) : p (typeLine pre ty) = false := by
  rw [typeLine_keyval]; exact hp.marker h (not_mem_append_lit hpre (by decide)) hty

theorem KeyEnds.hashLine {p : Str → Bool} {q : Str} (hp : KeyEnds p q) (h : Apart q cs!"/_hash") {pre hx : Str}
    (hpre : '=' ∉ pre) (hhx : '=' ∉ hx) : p (hashLine pre hx) = false := by
  rw [hashLine_keyval]; exact hp.marker h (not_mem_append_lit hpre (by decide)) hhx

theorem KeyEnds.lengthLine {p : Str → Bool} {q : Str} (hp : KeyEnds p q) (h : Apart q cs!"/_length") {pre : Str}
    (n : Nat) (hpre : '=' ∉ pre) : p (lengthLine pre n) = false := by
  rw [lengthLine_keyval]; exact hp.marker h (not_mem_append_lit hpre (by decide)) (eq_not_mem_dec n)

theorem KeyEnds.lengthLines {p : Str → Bool} {q : Str} (hp : KeyEnds p q) (h : Apart q cs!"/_length") {pre : Str}
    (b : Bool) (n : Nat) (hpre : '=' ∉ pre) : ∀ l ∈ (if b then [] else [Flat.lengthLine pre n]), p l = false := by
  cases b
  · simpa using hp.lengthLine h n hpre
  · simp

theorem KeyEnds.hpLines {p : Str → Bool} {q : Str} (hp : KeyEnds p q) (h1 : Apart q cs!"/_hash")
    (h2 : Apart q cs!"/_pos") {h : Str → Str} (hh : HashNoEq h) {pre path : Str} (r : Str) (hpre : '=' ∉ pre)
    (hpath : '=' ∉ path) (e : Bool) (ln : Option Nat) : ∀ l ∈ hpLines h pre path e r ln, p l = false := by
  refine forall_hpLines (hp.hashLine h1 hpre (hh r)) (fun n => ?_) e ln
  rw [posLine_keyval]
  refine hp.marker h2 (not_mem_append_lit hpre (by decide)) ?_
  simp only [List.mem_append, List.mem_cons, not_or]
  exact ⟨eq_not_mem_dec n, by decide, fun hm => hpath (List.mem_of_mem_drop hm)⟩

theorem keep_block {pass : List Str → List Str} {p : Str → Bool}
    (hkeep : ∀ l L, p l = false → pass (l :: L) = l :: pass L) :
    ∀ (A L : List Str), (∀ l ∈ A, p l = false) → pass (A ++ L) = A ++ pass L
  | [], _, _ => rfl
  | a :: A, L, h => by
    rw [List.cons_append, hkeep _ _ (h a (by simp)), keep_block hkeep A L (fun l hl => h l (List.mem_cons_of_mem _ hl))]
    rfl

theorem filter_not_append_keep (p : Str → Bool) {A : List Str} (L : List Str) (hA : ∀ l ∈ A, p l = false) :
    (A ++ L).filter (fun l => !p l) = A ++ L.filter (fun l => !p l) :=
  keep_block (fun l L h => by simp [h]) A L hA

theorem unquoteLine_keyval {K V : Str} (hK : '=' ∉ K) :
    unquoteLine (K ++ '=' :: V) = K ++ '=' :: unquoteValue V := by
  unfold unquoteLine
  simp only [keyPart_keyval K V hK, List.drop_left]

theorem unquoteLine_fixes {K V : Str} (hK : '=' ∉ K) (hV : unquoteFixes V = true) :
    unquoteLine (K ++ '=' :: V) = K ++ '=' :: V := by
  rw [unquoteLine_keyval hK, beq_iff_eq.mp hV]

theorem unquoteFixes_of_no_quote (V : Str) (h : ∀ z ∈ V, isQuote z = false) : unquoteFixes V = true := by
  cases V with
  | nil => rfl
  | cons q body => simp [unquoteFixes, unquoteValue, h q (by simp)]

theorem no_quote_dec (n : Nat) : ∀ z ∈ dec n, isQuote z = false := fun z hz =>
  Bool.eq_false_iff.mpr fun hq => by
    simp only [isQuote, Bool.or_eq_true, beq_iff_eq] at hq
    rcases hq with rfl | rfl <;> cases isDigit_of_mem_dec hz

/-- Hypothesis on the hash function: its texts contain no quote. -/
def HashNoQuote (h : Str → Str) : Prop := ∀ r, ∀ z ∈ h r, isQuote z = false

theorem no_quote_subPath {path : Str} (i : Nat) (hpath : ∀ z ∈ path, isQuote z = false) :
    ∀ z ∈ subPath path i, isQuote z = false :=
  List.forall_mem_append.mpr ⟨List.forall_mem_append.mpr ⟨hpath, no_quote_dec i⟩, by decide⟩

theorem unquoteLine_hpLines {h : Str → Str} (hh : HashNoQuote h) {pre path : Str} (r : Str) (hpre : '=' ∉ pre)
    (hpath : ∀ z ∈ path, isQuote z = false) (e : Bool) (ln : Option Nat) :
    ∀ l ∈ hpLines h pre path e r ln, unquoteLine l = l := by
  refine forall_hpLines ?_ (fun n => ?_) e ln
  · rw [hashLine_keyval]
    exact unquoteLine_fixes (not_mem_append_lit hpre (by decide)) (unquoteFixes_of_no_quote _ (hh r))
  · rw [posLine_keyval]
    exact unquoteLine_fixes (not_mem_append_lit hpre (by decide)) (unquoteFixes_of_no_quote _
      (List.forall_mem_append.mpr ⟨no_quote_dec n, List.forall_mem_cons.mpr
        ⟨by decide, fun z hz => hpath z (List.mem_of_mem_drop hz)⟩⟩))

theorem length_unquoteTreeItems : ∀ xs : List Val, (unquoteTreeItems xs).length = xs.length
  | [] => rfl
  | x :: xs => by simp [unquoteTreeItems, length_unquoteTreeItems xs]

mutual
theorem unquote_dumpP (h : Str → Str) (hh : HashNoQuote h) : ∀ (v : Val) (pre path : Str),
    '=' ∉ pre → (∀ z ∈ path, isQuote z = false) → wfUnquote v = true →
    unquote (dumpP h pre path v) = dumpP h pre path (unquoteTree v)
  | .node ty e r ln fs, pre, path, hpre, hpath, hwf => by
    simp only [wfUnquote, Bool.and_eq_true] at hwf
    have ih := unquote_dumpPFields h hh fs pre path 0 hpre hpath hwf.2
    have h1 : unquoteLine (typeLine pre ty) = typeLine pre ty := by
      rw [typeLine_keyval]; exact unquoteLine_fixes (not_mem_append_lit hpre eq_not_mem_tyKey) hwf.1
    have h2 : (hpLines h pre path e r ln).map unquoteLine = hpLines h pre path e r ln :=
      (List.map_congr_left (unquoteLine_hpLines hh r hpre hpath e ln)).trans (List.map_id _)
    simp only [unquote] at ih ⊢
    rw [unquoteTree, dumpP_node_eq, dumpP_node_eq, List.map_cons, List.map_append, h1, h2, ih]
  | .list q xs, pre, path, hpre, hpath, hwf => by
    simp only [wfUnquote] at hwf
    have ih := unquote_dumpPItems h hh xs pre path 1 hpre hpath hwf
    have h1 : unquoteLine (lengthLine pre xs.length) = lengthLine pre xs.length := by
      rw [lengthLine_keyval]
      exact unquoteLine_fixes (not_mem_append_lit hpre (by decide))
        (unquoteFixes_of_no_quote _ (no_quote_dec _))
    simp only [unquote] at ih ⊢
    cases q <;> simp [dumpP, unquoteTree, h1, ih, length_unquoteTreeItems]
  | .scalar r k, pre, path, hpre, _, hwf => by
    simp only [wfUnquote, beq_iff_eq] at hwf
    simp only [dumpP, unquoteTree, unquote, List.map_cons, List.map_nil, scalarLine]
    rw [unquoteLine_keyval hpre, hwf]
theorem unquote_dumpPFields (h : Str → Str) (hh : HashNoQuote h) : ∀ (fs : List (Str × Val)) (pre path : Str) (i : Nat),
    '=' ∉ pre → (∀ z ∈ path, isQuote z = false) → wfUnquoteFields fs = true →
    unquote (dumpPFields h pre path i fs) = dumpPFields h pre path i (unquoteTreeFields fs)
  | [], _, _, _, _, _, _ => rfl
  | (n, v) :: rest, pre, path, i, hpre, hpath, hwf => by
    simp only [wfUnquoteFields, Bool.and_eq_true] at hwf
    have hn : '=' ∉ n := by simpa using hwf.1.1
    have h1 := unquote_dumpP h hh v (subPre pre n) (subPath path i) (eq_not_mem_subPre hpre hn)
      (no_quote_subPath i hpath) hwf.1.2
    have h2 := unquote_dumpPFields h hh rest pre path (i + 1) hpre hpath hwf.2
    simp only [unquote] at h1 h2 ⊢
    simp only [dumpPFields, unquoteTreeFields, List.map_append, h1, h2]
theorem unquote_dumpPItems (h : Str → Str) (hh : HashNoQuote h) : ∀ (xs : List Val) (pre path : Str) (i : Nat),
    '=' ∉ pre → (∀ z ∈ path, isQuote z = false) → wfUnquoteItems xs = true →
    unquote (dumpPItems h pre path i xs) = dumpPItems h pre path i (unquoteTreeItems xs)
  | [], _, _, _, _, _, _ => rfl
  | v :: rest, pre, path, i, hpre, hpath, hwf => by
    simp only [wfUnquoteItems, Bool.and_eq_true] at hwf
    have h1 := unquote_dumpP h hh v (subPre pre (dec i)) (subPath path i)
      (eq_not_mem_subPre hpre (eq_not_mem_dec i)) (no_quote_subPath i hpath) hwf.1
    have h2 := unquote_dumpPItems h hh rest pre path (i + 1) hpre hpath hwf.2
    simp only [unquote] at h1 h2 ⊢
    simp only [dumpPItems, unquoteTreeItems, List.map_append, h1, h2]
end

theorem hashNoQuote_hashFn (t : Val) : HashNoQuote (hashFn t) := by
  intro r z hz
  cases hq : isQuote z with
  | false => rfl
  | true =>
    have hq : z = '\'' ∨ z = '"' := by simpa [isQuote] using hq
    rcases hq with rfl | rfl <;> exact absurd hz (not_mem_hex4 (by decide) (by decide) _)

theorem hasInfixAfter1_iff (pat : Str) : ∀ l : Str,
    hasInfixAfter1 pat l = true ↔ ∃ a b, a ≠ [] ∧ l = a ++ pat ++ b
  | [] => by
    simp only [hasInfixAfter1, Bool.false_eq_true, false_iff]
    rintro ⟨_ | ⟨x, a⟩, b, ha, h⟩
    · exact ha rfl
    · cases h
  | c :: t => by
    simp only [hasInfixAfter1, hasInfix_iff]
    constructor
    · rintro ⟨a, b, h⟩; exact ⟨c :: a, b, by simp, by simp [h]⟩
    · rintro ⟨_ | ⟨x, a⟩, b, ha, h⟩
      · exact absurd rfl ha
      · exact ⟨a, b, (List.cons.inj h).2⟩

abbrev kindKey : Str := cs!"/kind"

theorem kindMark_eq : kindMark = kindKey ++ ['='] := rfl

theorem isKindLine_keyval {K V : Str} (hK : '=' ∉ K) : isKindLine (K ++ '=' :: V) = true ↔ EndsMore kindKey K := by
  unfold isKindLine
  simp only [keyPart_keyval K V hK, Bool.and_eq_true, decide_eq_true_eq, List.isSuffixOf_iff_suffix, and_assoc,
    endsMore_iff]
  exact and_iff_right (by simp)

theorem isKindLine_keyEnds : KeyEnds isKindLine kindKey :=
  fun _ _ hK _ hb => ((isKindLine_keyval hK).mp hb).suffix

theorem isKindLine_scalarLine {ppre n r : Str} (hpre : '=' ∉ ppre) (hn : '=' ∉ n) (hn' : '/' ∉ n) :
    isKindLine (scalarLine (subPre ppre n) r) = (!ppre.isEmpty && n == cs!"kind") := by
  rw [Bool.eq_iff_iff, scalarLine, isKindLine_keyval (eq_not_mem_subPre hpre hn)]
  simp only [Bool.and_eq_true, Bool.not_eq_true', List.isEmpty_eq_false_iff, beq_iff_eq]
  constructor
  · rintro ⟨X, hX, h⟩
    obtain ⟨h1, h2⟩ := split_last_unique (A := ppre) (C := X) (D := cs!"kind") hn' (by decide) h
    exact ⟨h1 ▸ hX, h2⟩
  · rintro ⟨h1, rfl⟩
    exact ⟨ppre, h1, rfl⟩

theorem dec_ne_kind (i : Nat) : (dec i == cs!"kind") = false :=
  beq_eq_false_iff_ne.mpr fun e => not_mem_dec (c := 'k') rfl i (e ▸ List.mem_cons_self)

theorem length_dropKindsItems : ∀ xs : List Val, (dropKindsItems xs).length = xs.length
  | [] => rfl
  | x :: xs => by simp [dropKindsItems, length_dropKindsItems xs]

mutual
theorem suppressKinds_dumpP (h : Str → Str) (hh : HashNoEq h) : ∀ (v : Val) (pre path : Str),
    '=' ∉ pre → '=' ∉ path → wfKinds v = true → (∀ r k, v ≠ .scalar r k) →
    suppressKinds (dumpP h pre path v) = dumpP h pre path (dropKinds (!pre.isEmpty) v)
  | .node ty e r ln fs, pre, path, hpre, hpath, hwf, _ => by
    simp only [wfKinds, Bool.and_eq_true] at hwf
    have hty : '=' ∉ ty := by simpa using hwf.1
    have ih := suppressKinds_dumpPFields h hh fs pre path 0 hpre hpath hwf.2
    have hown : ∀ l ∈ typeLine pre ty :: hpLines h pre path e r ln, isKindLine l = false :=
      List.forall_mem_cons.mpr ⟨isKindLine_keyEnds.typeLine (by decide) hpre hty,
        isKindLine_keyEnds.hpLines (by decide) (by decide) hh r hpre hpath e ln⟩
    rw [dropKinds, dumpP_node_eq, dumpP_node_eq, ← ih, ← List.cons_append, ← List.cons_append]
    exact filter_not_append_keep isKindLine _ hown
  | .list q xs, pre, path, hpre, hpath, hwf, _ => by
    rw [dropKinds, dumpP, dumpP, length_dropKindsItems, ← suppressKinds_dumpPItems h hh xs pre path 1 hpre hpath hwf]
    exact filter_not_append_keep isKindLine _ (isKindLine_keyEnds.lengthLines (by decide) q _ hpre)
  | .scalar r k, _, _, _, _, _, hns => absurd rfl (hns r k)
theorem suppressKinds_dumpPFields (h : Str → Str) (hh : HashNoEq h) : ∀ (fs : List (Str × Val)) (pre path : Str) (i : Nat),
    '=' ∉ pre → '=' ∉ path → wfKindsFields fs = true →
    suppressKinds (dumpPFields h pre path i fs) = dumpPFields h pre path i (dropKindsFields (!pre.isEmpty) fs)
  | [], _, _, _, _, _, _ => rfl
  | (n, v) :: rest, pre, path, i, hpre, hpath, hwf => by
    simp only [wfKindsFields, Bool.and_eq_true] at hwf
    obtain ⟨⟨⟨⟨hn1, hn2⟩, hv⟩, hrest⟩, hlast⟩ := hwf
    have hn : '=' ∉ n := by simpa using hn1
    have hn' : '/' ∉ n := by simpa using hn2
    have ih := suppressKinds_dumpPFields h hh rest pre path (i + 1) hpre hpath hrest
    by_cases hs : ∃ r k, v = .scalar r k
    · obtain ⟨r, k, rfl⟩ := hs
      have hk := isKindLine_scalarLine (r := r) hpre hn hn'
      cases hc : (!pre.isEmpty && n == cs!"kind") with
      | true =>
        -- the `kind` field is the last one: nothing is renumbered
        obtain rfl : rest = [] := by simpa [(Bool.and_eq_true_iff.mp hc).2] using hlast
        simp [dumpPFields, dumpP, dropKindsFields, suppressKinds, hk, hc]
      | false =>
        simp only [dumpPFields, dumpP, dropKindsFields, hc, Bool.false_eq_true, if_false, ← ih]
        exact filter_not_append_keep isKindLine _ (by simp [hk, hc])
    · have hns : ∀ r k, v ≠ .scalar r k := fun r k e => hs ⟨r, k, e⟩
      have h1 := suppressKinds_dumpP h hh v (subPre pre n) (subPath path i)
        (eq_not_mem_subPre hpre hn) (eq_not_mem_subPath i hpath) hv hns
      rw [subPre_not_empty] at h1
      rw [dropKindsFields, dumpPFields, dumpPFields, ← h1, ← ih]
      · exact List.filter_append ..
      · exact hns
theorem suppressKinds_dumpPItems (h : Str → Str) (hh : HashNoEq h) : ∀ (xs : List Val) (pre path : Str) (i : Nat),
    '=' ∉ pre → '=' ∉ path → wfKindsItems xs = true →
    suppressKinds (dumpPItems h pre path i xs) = dumpPItems h pre path i (dropKindsItems xs)
  | [], _, _, _, _, _, _ => rfl
  | v :: rest, pre, path, i, hpre, hpath, hwf => by
    simp only [wfKindsItems, Bool.and_eq_true] at hwf
    have ih := suppressKinds_dumpPItems h hh rest pre path (i + 1) hpre hpath hwf.2
    rw [dropKindsItems, dumpPItems, dumpPItems, ← ih]
    by_cases hs : ∃ r k, v = .scalar r k
    · obtain ⟨r, k, rfl⟩ := hs
      have hk := isKindLine_scalarLine (ppre := pre) (n := dec i) (r := r) hpre (eq_not_mem_dec i)
        (slash_not_mem_dec i)
      rw [dec_ne_kind, Bool.and_false] at hk
      exact filter_not_append_keep isKindLine _ (by simp [dumpP, hk])
    · have h1 := suppressKinds_dumpP h hh v (subPre pre (dec i)) (subPath path i)
        (eq_not_mem_subPre hpre (eq_not_mem_dec i)) (eq_not_mem_subPath i hpath) hwf.1 (fun r k e => hs ⟨r, k, e⟩)
      rw [subPre_not_empty] at h1
      rw [← h1]
      exact List.filter_append ..
end

theorem scan_iff {f test : Str → Bool} (h0 : f [] = false) (hc : ∀ c t, f (c :: t) = (test (c :: t) || f t)) :
    ∀ s, f s = true ↔ ∃ a b, s = a ++ b ∧ b ≠ [] ∧ test b = true
  | [] => by
    rw [h0]
    exact ⟨fun h => (Bool.false_ne_true h).elim, fun ⟨a, b, h, hb, _⟩ => absurd (List.nil_eq_append_iff.mp h).2 hb⟩
  | c :: t => by
    rw [hc, Bool.or_eq_true, scan_iff h0 hc t]
    constructor
    · rintro (h | ⟨a, b, rfl, hb, ht⟩)
      · exact ⟨[], c :: t, rfl, List.cons_ne_nil _ _, h⟩
      · exact ⟨c :: a, b, rfl, hb, ht⟩
    · rintro ⟨a, b, h, hb, ht⟩
      cases a with
      | nil => exact Or.inl (h ▸ ht)
      | cons x a' =>
        obtain ⟨-, rfl⟩ := List.cons.inj h
        exact Or.inr ⟨a', b, rfl, hb, ht⟩

/-- `g` is the search for a regular expression `.+PAT`: `test` (the match of `PAT`) is tried at every position from
the second character on. -/
theorem scan_after1_iff {g f test : Str → Bool} (g0 : g [] = false) (gc : ∀ c t, g (c :: t) = f t)
    (h0 : f [] = false) (hc : ∀ c t, f (c :: t) = (test (c :: t) || f t)) :
    ∀ l, g l = true ↔ ∃ a b, a ≠ [] ∧ l = a ++ b ∧ b ≠ [] ∧ test b = true
  | [] => by
    rw [g0]
    exact ⟨fun h => (Bool.false_ne_true h).elim, fun ⟨a, b, _, h, hb, _⟩ => absurd (List.nil_eq_append_iff.mp h).2 hb⟩
  | c :: t => by
    rw [gc, scan_iff h0 hc t]
    constructor
    · rintro ⟨a, b, rfl, hb, ht⟩
      exact ⟨c :: a, b, List.cons_ne_nil _ _, rfl, hb, ht⟩
    · rintro ⟨a, b, ha, h, hb, ht⟩
      cases a with
      | nil => exact absurd rfl ha
      | cons x a' =>
        obtain ⟨-, rfl⟩ := List.cons.inj h
        exact ⟨a', b, rfl, hb, ht⟩

abbrev posonlyMark : Str := cs!"/args/posonlyargs/_length="
abbrev posonlyMarkKey : Str := cs!"/args/posonlyargs/_length"

theorem posonlyTail_iff (s : Str) :
    posonlyTail s = true ↔ ∃ ds, s = posonlyMark ++ ds ∧ ds ≠ [] ∧ ds.all isDigitC = true := by
  simp only [posonlyTail, Bool.and_eq_true, List.isPrefixOf_iff_prefix, Bool.not_eq_true', List.isEmpty_eq_false_iff]
  constructor
  · rintro ⟨⟨ds, rfl⟩, h2, h3⟩
    rw [List.drop_left] at h2 h3
    exact ⟨ds, rfl, h2, h3⟩
  · rintro ⟨ds, rfl, h2, h3⟩
    rw [List.drop_left]
    exact ⟨⟨ds, rfl⟩, h2, h3⟩

theorem isPosonlyLine_keyval {K V : Str} (hK : '=' ∉ K) (hV : '=' ∉ V) :
    isPosonlyLine (K ++ '=' :: V) = true ↔ EndsMore posonlyMarkKey K ∧ V ≠ [] ∧ V.all isDigitC = true := by
  rw [scan_after1_iff (f := posonlyFrom) (test := posonlyTail) rfl (fun _ _ => rfl) rfl (fun _ _ => rfl)]
  constructor
  · rintro ⟨a, b, ha, h, _, hb⟩
    obtain ⟨ds, rfl, h2, h3⟩ := (posonlyTail_iff b).mp hb
    obtain ⟨h1, rfl⟩ := (keyval_eq_append_iff (q := posonlyMarkKey) hK hV).mp h
    exact ⟨⟨a, ha, h1⟩, h2, h3⟩
  · rintro ⟨⟨a, ha, rfl⟩, h2, h3⟩
    exact ⟨a, posonlyMark ++ V, ha, (keyval_eq_append_iff (q := posonlyMarkKey) hK hV).mpr ⟨rfl, rfl⟩,
      List.cons_ne_nil _ _, (posonlyTail_iff _).mpr ⟨V, rfl, h2, h3⟩⟩

theorem isPosonlyLine_keyEnds : KeyEnds isPosonlyLine posonlyMarkKey :=
  fun _ _ hK hV hb => ((isPosonlyLine_keyval hK hV).mp hb).1.suffix

theorem posonlyPre_iff (pre : Str) : posonlyPre pre = true ↔ ∃ a, a ≠ [] ∧ pre = a ++ posonlyKey := by
  simp only [posonlyPre, Bool.and_eq_true, List.isSuffixOf_iff_suffix, decide_eq_true_eq]
  exact endsMore_iff

theorem isPosonlyLine_lengthLine {pre : Str} (n : Nat) (hpre : '=' ∉ pre) :
    isPosonlyLine (lengthLine pre n) = posonlyPre pre := by
  rw [Bool.eq_iff_iff, lengthLine_keyval,
    isPosonlyLine_keyval (not_mem_append_lit hpre (by decide)) (eq_not_mem_dec n), posonlyPre_iff]
  have key : EndsMore posonlyMarkKey (pre ++ cs!"/_length") ↔ EndsMore posonlyKey pre :=
    endsMore_append_right (p := posonlyKey) (m := cs!"/_length")
  exact ⟨fun h => key.mp h.1, fun h => ⟨key.mpr h, dec_ne_nil n, all_isDigitC_dec n⟩⟩

theorem length_quietPosonlyItems (pre : Str) : ∀ (xs : List Val) (i : Nat),
    (quietPosonlyItems pre i xs).length = xs.length
  | [], _ => rfl
  | x :: xs, i => by simp [quietPosonlyItems, length_quietPosonlyItems pre xs (i + 1)]

mutual
theorem suppressPosonlyargs_dumpP (h : Str → Str) (hh : HashNoEq h) : ∀ (v : Val) (pre path : Str),
    '=' ∉ pre → '=' ∉ path → wfPosonly pre v = true →
    suppressPosonlyargs (dumpP h pre path v) = dumpP h pre path (quietPosonly pre v)
  | .node ty e r ln fs, pre, path, hpre, hpath, hwf => by
    simp only [wfPosonly, Bool.and_eq_true] at hwf
    have hty : '=' ∉ ty := by simpa using hwf.1
    have ih := suppressPosonlyargs_dumpPFields h hh fs pre path 0 hpre hpath hwf.2
    have hown : ∀ l ∈ typeLine pre ty :: hpLines h pre path e r ln, isPosonlyLine l = false :=
      List.forall_mem_cons.mpr ⟨isPosonlyLine_keyEnds.typeLine (by decide) hpre hty,
        isPosonlyLine_keyEnds.hpLines (by decide) (by decide) hh r hpre hpath e ln⟩
    rw [quietPosonly, dumpP_node_eq, dumpP_node_eq, ← ih, ← List.cons_append, ← List.cons_append]
    exact filter_not_append_keep isPosonlyLine _ hown
  | .list q xs, pre, path, hpre, hpath, hwf => by
    simp only [wfPosonly] at hwf
    have ih := suppressPosonlyargs_dumpPItems h hh xs pre path 1 hpre hpath hwf
    have h1 := isPosonlyLine_lengthLine xs.length hpre
    rw [quietPosonly, dumpP, dumpP, length_quietPosonlyItems, ← ih]
    cases q with
    | true => rfl
    | false =>
      cases hp : posonlyPre pre with
      | true => simp [suppressPosonlyargs, h1, hp]
      | false => simp [suppressPosonlyargs, h1, hp]
  | .scalar r k, pre, path, _, _, hwf => by
    simp only [wfPosonly, Bool.not_eq_true'] at hwf
    simp [dumpP, quietPosonly, suppressPosonlyargs, hwf]
theorem suppressPosonlyargs_dumpPFields (h : Str → Str) (hh : HashNoEq h) :
    ∀ (fs : List (Str × Val)) (pre path : Str) (i : Nat),
    '=' ∉ pre → '=' ∉ path → wfPosonlyFields pre fs = true →
    suppressPosonlyargs (dumpPFields h pre path i fs) = dumpPFields h pre path i (quietPosonlyFields pre fs)
  | [], _, _, _, _, _, _ => rfl
  | (n, v) :: rest, pre, path, i, hpre, hpath, hwf => by
    simp only [wfPosonlyFields, Bool.and_eq_true] at hwf
    have hn : '=' ∉ n := by simpa using hwf.1.1
    have h1 := suppressPosonlyargs_dumpP h hh v (subPre pre n) (subPath path i)
      (eq_not_mem_subPre hpre hn) (eq_not_mem_subPath i hpath) hwf.1.2
    have h2 := suppressPosonlyargs_dumpPFields h hh rest pre path (i + 1) hpre hpath hwf.2
    rw [dumpPFields, quietPosonlyFields, dumpPFields, ← h1, ← h2]
    exact List.filter_append ..
theorem suppressPosonlyargs_dumpPItems (h : Str → Str) (hh : HashNoEq h) :
    ∀ (xs : List Val) (pre path : Str) (i : Nat),
    '=' ∉ pre → '=' ∉ path → wfPosonlyItems pre i xs = true →
    suppressPosonlyargs (dumpPItems h pre path i xs) = dumpPItems h pre path i (quietPosonlyItems pre i xs)
  | [], _, _, _, _, _, _ => rfl
  | v :: rest, pre, path, i, hpre, hpath, hwf => by
    simp only [wfPosonlyItems, Bool.and_eq_true] at hwf
    have h1 := suppressPosonlyargs_dumpP h hh v (subPre pre (dec i)) (subPath path i)
      (eq_not_mem_subPre hpre (eq_not_mem_dec i)) (eq_not_mem_subPath i hpath) hwf.1
    have h2 := suppressPosonlyargs_dumpPItems h hh rest pre path (i + 1) hpre hpath hwf.2
    rw [dumpPItems, quietPosonlyItems, dumpPItems, ← h1, ← h2]
    exact List.filter_append ..
end

end Paroxy.Flat
