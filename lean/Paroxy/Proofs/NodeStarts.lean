/-
Where a `node` occurrence starts (C01, after fix 44b0b15): under `lastDescMono` the specification
`nodeStartsSpec` (smaller of the own line and the line of the last positioned strict descendant) is the list
of the positioned nodes with their own lines.
-/
import Paroxy.Proofs.NodeFeature
namespace Paroxy.Flat

theorem nodeStartsSpec_eq_all :
    (∀ v names addr, lastDescMono names addr v = true →
      nodeStartsSpec names addr v = positionedOfEntries (entries names addr v)) ∧
    (∀ fs names addr i,
      lastDescMonoFields names addr i fs = true →
      nodeStartsSpecFields names addr i fs = positionedOfEntries (entriesFields names addr i fs)) ∧
    (∀ xs names addr i,
      lastDescMonoItems names addr i xs = true →
      nodeStartsSpecItems names addr i xs = positionedOfEntries (entriesItems names addr i xs)) := by
  refine Val.induction ?_ ?_ ?_ ?_ ?_ ?_ ?_
  · intro ty e r ln fs ih names addr h
    obtain ⟨h1, h2⟩ := Bool.and_eq_true_iff.mp h
    have ih := ih names addr 0 h2
    cases ln with
    | none => exact ih
    | some n =>
      -- the own line is not after the line of the last positioned descendant: `min` returns it
      show (ty, _) :: nodeStartsSpecFields names addr 0 fs = (ty, n) :: _
      rw [ih]
      cases hl : lastPosOfEntries (entriesFields names addr 0 fs) with
      | none => rfl
      | some p =>
        rw [hl] at h1
        exact congrArg (fun m => (ty, m) :: _) (Nat.min_eq_left (of_decide_eq_true h1))
  · exact fun q xs ih names addr h => ih names addr 1 h
  · exact fun _ _ _ _ _ => rfl
  · exact fun _ _ _ _ => rfl
  · intro n v rest hv hr names addr i h
    obtain ⟨h1, h2⟩ := Bool.and_eq_true_iff.mp h
    exact (congr (congrArg _ (hv _ _ h1)) (hr names addr (i + 1) h2)).trans (positionedOfEntries_app _ _).symm
  · exact fun _ _ _ _ => rfl
  · intro v rest hv hr names addr i h
    obtain ⟨h1, h2⟩ := Bool.and_eq_true_iff.mp h
    exact (congr (congrArg _ (hv _ _ h1)) (hr names addr (i + 1) h2)).trans (positionedOfEntries_app _ _).symm

theorem nodeStartsSpecFields_eq (names : List Str) (addr : List Nat) (i : Nat) (fs : List (Str × Val))
    (h : lastDescMonoFields names addr i fs = true) :
    nodeStartsSpecFields names addr i fs = positionedOfEntries (entriesFields names addr i fs) :=
  nodeStartsSpec_eq_all.2.1 fs names addr i h

theorem nodeStartsSpecItems_eq (names : List Str) (addr : List Nat) (i : Nat) (xs : List Val)
    (h : lastDescMonoItems names addr i xs = true) :
    nodeStartsSpecItems names addr i xs = positionedOfEntries (entriesItems names addr i xs) :=
  nodeStartsSpec_eq_all.2.2 xs names addr i h

end Paroxy.Flat
