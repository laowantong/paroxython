/-
Where a separator character or the literal `/_type=` can occur in a line of the form `key=value`: what the `node`
matcher's `typeSplits` offers on such a line.
-/
import Paroxy.Model.NodeFeature
namespace Paroxy.Flat

theorem split_first {c : Char} {A B C D : Str} (hC : c ∉ C)
    (h : A ++ c :: B = C ++ c :: D) : (A = C ∧ B = D) ∨ ∃ E, A = C ++ c :: E ∧ D = E ++ c :: B := by
  induction C generalizing A with
  | nil =>
    cases A with
    | nil => exact .inl ⟨rfl, List.tail_eq_of_cons_eq h⟩
    | cons a A' =>
      injection h with h1 h2
      exact .inr ⟨A', by rw [h1]; rfl, h2.symm⟩
  | cons x C ih =>
    cases A with
    | nil => exact absurd (List.head_eq_of_cons_eq h) (fun e => hC (e ▸ List.mem_cons_self))
    | cons a A' =>
      injection h with h1 h2
      rcases ih (fun m => hC (List.mem_cons_of_mem _ m)) h2 with ⟨h3, h4⟩ | ⟨E, h3, h4⟩
      · exact .inl ⟨by rw [h1, h3], h4⟩
      · exact .inr ⟨E, by rw [h1, h3]; rfl, h4⟩

/- `A ++ c :: B = C ++ c :: D` gives `A = C` and `B = D` when the two parts free of `c` are `C, D`
(`split_at_unique`), `A, C` (`split_first_unique`: the first `c` on both sides) or `B, D` (`split_last_unique`: the
last one). -/
theorem split_at_unique {c : Char} {A B C D : Str} (hC : c ∉ C) (hD : c ∉ D)
    (h : A ++ c :: B = C ++ c :: D) : A = C ∧ B = D := by
  rcases split_first hC h with h | ⟨E, -, rfl⟩
  · exact h
  · exact absurd (List.mem_append_right _ List.mem_cons_self) hD

theorem split_first_unique {c : Char} {A B C D : Str} (hA : c ∉ A) (hC : c ∉ C)
    (h : A ++ c :: B = C ++ c :: D) : A = C ∧ B = D := by
  rcases split_first hC h with h1 | ⟨E, h1, _⟩
  · exact h1
  · exact absurd (by rw [h1]; simp) hA

theorem split_last_unique {c : Char} {A B C D : Str} (hB : c ∉ B) (hD : c ∉ D)
    (h : A ++ c :: B = C ++ c :: D) : A = C ∧ B = D := by
  have hr := congrArg List.reverse h
  simp only [List.reverse_append, List.reverse_cons, List.append_assoc, List.singleton_append] at hr
  have := split_first_unique (c := c) (A := B.reverse) (B := A.reverse) (C := D.reverse) (D := C.reverse)
    (by simpa using hB) (by simpa using hD) hr
  exact ⟨List.reverse_inj.mp this.2, List.reverse_inj.mp this.1⟩

theorem takeWhile_ne_append (c : Char) (V W : Str) (h : c ∉ V) (hW : W.takeWhile (· != c) = []) :
    (V ++ W).takeWhile (· != c) = V := by
  have hV : ∀ x ∈ V, (x != c) = true := fun x hx => bne_iff_ne.mpr fun e : x = c => h (e ▸ hx)
  rw [List.takeWhile_append_of_pos hV, hW, List.append_nil]

theorem hasInfix_iff (pat : Str) (s : Str) : hasInfix pat s = true ↔ ∃ a b, s = a ++ pat ++ b := by
  have h : hasInfix pat s = true ↔ pat <:+: s := by
    induction s with
    | nil => rw [hasInfix, List.isEmpty_iff, List.infix_nil]
    | cons c t ih => rw [hasInfix, Bool.or_eq_true, List.isPrefixOf_iff_prefix, ih, List.infix_cons_iff]
  exact h.trans ⟨fun ⟨a, b, e⟩ => ⟨a, b, e.symm⟩, fun ⟨a, b, e⟩ => ⟨a, b, e.symm⟩⟩

theorem hasInfix_false_of_not_mem {pat s : Str} {c : Char} (hc : c ∈ pat) (hs : c ∉ s) :
    hasInfix pat s = false := by
  cases h : hasInfix pat s with
  | false => rfl
  | true =>
    obtain ⟨a, b, rfl⟩ := (hasInfix_iff pat s).mp h
    exact absurd (List.mem_append_left _ (List.mem_append_right _ hc)) hs

abbrev tyMark : Str := cs!"/_type="
abbrev tyKey : Str := cs!"/_type"

theorem tyMark_eq : tyMark = tyKey ++ ['='] := rfl
theorem eq_not_mem_tyKey : '=' ∉ tyKey := by decide
theorem tyMark_split (x y : Str) : x ++ tyMark ++ y = (x ++ tyKey) ++ '=' :: y := by simp

theorem typeLine_keyval (pre ty : Str) : typeLine pre ty = (pre ++ tyKey) ++ '=' :: ty := tyMark_split pre ty

theorem hashLine_keyval (pre hx : Str) : hashLine pre hx = (pre ++ cs!"/_hash") ++ '=' :: hx := by simp [hashLine]

theorem posLine_keyval (pre path : Str) (n : Nat) :
    posLine pre n path = (pre ++ cs!"/_pos") ++ '=' :: (dec n ++ ':' :: path.drop 2) := by simp [posLine]

theorem lengthLine_keyval (pre : Str) (n : Nat) : lengthLine pre n = (pre ++ cs!"/_length") ++ '=' :: dec n := by
  simp [lengthLine]

theorem prefixMore_iff {p l s : Str} :
    (p.isPrefixOf l && p.length < l.length) = true ∧ l.drop p.length = s ↔ l = p ++ s ∧ s ≠ [] := by
  rw [Bool.and_eq_true, List.isPrefixOf_iff_prefix, decide_eq_true_eq]
  constructor
  · rintro ⟨⟨⟨s', rfl⟩, hl⟩, rfl⟩
    rw [List.drop_left]
    refine ⟨rfl, fun e => ?_⟩
    rw [e, List.append_nil] at hl
    exact Nat.lt_irrefl _ hl
  · rintro ⟨rfl, hs⟩
    refine ⟨⟨⟨s, rfl⟩, ?_⟩, List.drop_left⟩
    rw [List.length_append]
    exact Nat.lt_add_of_pos_right (List.length_pos_iff.mpr hs)

theorem mem_typeSplitsAux (g s : Str) : ∀ (l acc : Str),
    (g, s) ∈ typeSplitsAux acc l ↔ ∃ u, l = u ++ tyMark ++ s ∧ s ≠ [] ∧ g = acc.reverse ++ u
  | [], acc => by
    refine ⟨fun h => (nomatch h), ?_⟩
    rintro ⟨u, h, -⟩
    rw [List.append_assoc] at h
    exact absurd (List.append_eq_nil_iff.mp h.symm).2 (List.cons_ne_nil _ _)
  | c :: t, acc => by
    rw [typeSplitsAux, List.mem_append, mem_typeSplitsAux g s t (c :: acc)]
    constructor
    · rintro (h | ⟨u, rfl, h2, rfl⟩)
      · split at h
        · rename_i hc
          obtain ⟨rfl, rfl⟩ := Prod.mk.inj (List.mem_singleton.mp h)
          obtain ⟨h1, h2⟩ := prefixMore_iff.mp ⟨hc, rfl⟩
          exact ⟨[], h1, h2, (List.append_nil _).symm⟩
        · nomatch h
      · exact ⟨c :: u, rfl, h2, by rw [List.reverse_cons, List.append_assoc]; rfl⟩
    · rintro ⟨u, h1, h2, rfl⟩
      cases u with
      | nil =>
        obtain ⟨hc, hd⟩ := prefixMore_iff (p := tyMark).mpr ⟨h1, h2⟩
        exact .inl (by rw [if_pos hc, hd, List.append_nil]; exact List.mem_singleton_self _)
      | cons x u' =>
        injection h1 with h3 h4
        exact .inr ⟨u', h4, h2, by rw [h3, List.reverse_cons, List.append_assoc]; rfl⟩

theorem mem_typeSplits (g s l : Str) :
    (g, s) ∈ typeSplits l ↔ l = g ++ tyMark ++ s ∧ s ≠ [] := by
  rw [typeSplits, List.mem_reverse, mem_typeSplitsAux]
  exact ⟨fun ⟨u, h1, h2, h3⟩ => ⟨by rw [h3]; exact h1, h2⟩, fun ⟨h1, h2⟩ => ⟨g, h1, h2, rfl⟩⟩

theorem suffix_after_sep {a X E : Str} {c : Char} (hc : c ∉ a) (h : a <:+ X ++ c :: E) : a <:+ E := by
  rcases List.suffix_or_suffix_of_suffix h (List.suffix_append X (c :: E)) with h' | h'
  · rcases List.suffix_cons_iff.mp h' with rfl | h''
    · exact absurd List.mem_cons_self hc
    · exact h''
  · exact absurd (h'.subset List.mem_cons_self) hc

/-- Where a literal `key=` can sit in a line `K=V` with no `=` in `K`: `key` ends `K`, or `key=` lies inside `V`. -/
theorem key_in_keyval {a b key K V : Str} (hK : '=' ∉ K) (hkey : '=' ∉ key)
    (h : (a ++ key) ++ '=' :: b = K ++ '=' :: V) : key <:+ K ∨ hasInfix (key ++ ['=']) V = true := by
  rcases split_first hK h with ⟨h2, -⟩ | ⟨E, h2, h3⟩
  · exact .inl ⟨a, h2⟩
  · -- `key` ends after the first `=`, and has no `=` itself: it lies inside `V`
    obtain ⟨a', ha'⟩ := suffix_after_sep hkey ⟨a, h2⟩
    exact .inr ((hasInfix_iff _ V).mpr ⟨a', b, by rw [h3, ← ha']; simp⟩)

theorem typeSplits_keyval {K V : Str} (hK : '=' ∉ K) (hsuf : ¬ tyKey <:+ K)
    (hV : hasInfix tyMark V = false) : typeSplits (K ++ '=' :: V) = [] := by
  rw [List.eq_nil_iff_forall_not_mem]
  rintro ⟨g, s⟩ hm
  obtain ⟨h1, -⟩ := (mem_typeSplits g s _).mp hm
  rcases key_in_keyval hK eq_not_mem_tyKey ((tyMark_split g s).symm.trans h1.symm) with h | h
  · exact hsuf h
  · exact Bool.false_ne_true (hV.symm.trans h)

theorem typeSplits_typeLine {pre ty : Str} (hpre : '=' ∉ pre) (hty : '=' ∉ ty) (hne : ty ≠ []) :
    (pre, ty) ∈ typeSplits (typeLine pre ty) ∧ ∀ y ∈ typeSplits (typeLine pre ty), y = (pre, ty) := by
  refine ⟨(mem_typeSplits _ _ _).mpr ⟨rfl, hne⟩, ?_⟩
  rintro ⟨g, s⟩ hm
  obtain ⟨h1, -⟩ := (mem_typeSplits g s _).mp hm
  have h1' : (g ++ tyKey) ++ '=' :: s = (pre ++ tyKey) ++ '=' :: ty :=
    (tyMark_split g s).symm.trans (h1.symm.trans (typeLine_keyval pre ty))
  have hK : '=' ∉ pre ++ tyKey := fun h => (List.mem_append.mp h).elim hpre eq_not_mem_tyKey
  obtain ⟨h2, h3⟩ := split_at_unique hK hty h1'
  rw [List.append_cancel_right h2, h3]

theorem firstSome_of_all_eq {α β : Type} (f : α → Option β) (x : α) : ∀ (l : List α),
    l ≠ [] → (∀ y ∈ l, y = x) → firstSome f l = f x
  | [], h, _ => absurd rfl h
  | y :: l, _, h => by
    obtain rfl : y = x := h y List.mem_cons_self
    rw [firstSome]
    cases hf : f y with
    | some b => rfl
    | none =>
      cases l with
      | nil => rfl
      | cons z l =>
        exact (firstSome_of_all_eq f y (z :: l) (List.cons_ne_nil _ _)
          (fun w hw => h w (List.mem_cons_of_mem _ hw))).trans hf

end Paroxy.Flat
