/-
`posixpath.commonpath` on clean names: what the two tests of the inner loop of `deduplicated_taxa`
compute ("the previous name is a proper segment-prefix of the current one"), the forest structure
of taxon names, and the fact that the code-point order puts a name after all its ancestors —
whatever characters sort between a name and its descendants.
-/
import Paroxy.Spec.Dedup
import Paroxy.Proofs.SplitOn
import Paroxy.Proofs.DedupZ
import Paroxy.Proofs.DedupLift
namespace Paroxy.Commonpath
open Paroxy Paroxy.Dedup Paroxy.Spec.Dedup
set_option linter.unusedSectionVars false

section Generic
variable {α : Type} [DecidableEq α]

theorem lcp_comm (a b : List α) : lcp a b = lcp b a := by
  induction a generalizing b with
  | nil => cases b <;> simp [lcp]
  | cons x s ih =>
    cases b with
    | nil => simp [lcp]
    | cons y t =>
      simp only [lcp]
      by_cases h : x = y
      · subst h; simp [ih]
      · simp [h, Ne.symm h]

theorem lcp_prefix_left (a b : List α) : lcp a b <+: a := by
  fun_induction lcp a b with
  | case1 _ _ _ ih => exact (List.prefix_cons_inj _).mpr ih
  | case2 => exact List.nil_prefix
  | case3 => exact List.nil_prefix

theorem lcp_of_prefix {a b : List α} (h : b <+: a) : lcp a b = b := by
  induction b generalizing a with
  | nil => cases a <;> simp [lcp]
  | cons y t ih =>
    cases a with
    | nil => simp at h
    | cons x s =>
      rw [List.cons_prefix_cons] at h
      simp only [lcp, h.1, if_true, ih h.2]

theorem lcp_self (a : List α) : lcp a a = a := lcp_of_prefix (List.prefix_refl a)

theorem properPrefix_iff (l₁ l₂ : List α) :
    properPrefix l₁ l₂ = true ↔ l₁ <+: l₂ ∧ l₁.length < l₂.length := by
  simp [properPrefix, List.isPrefixOf_iff_prefix]

theorem eq_or_properPrefix {l₁ l₂ : List α} (h : l₁ <+: l₂) : l₁ = l₂ ∨ properPrefix l₁ l₂ = true :=
  (Nat.lt_or_ge l₁.length l₂.length).elim (fun hl => .inr ((properPrefix_iff _ _).mpr ⟨h, hl⟩))
    fun hl => .inl (h.eq_of_length_le hl)

end Generic

theorem lt_append_cons (y : Name) (c : Char) (t : Name) : y < y ++ c :: t := by
  induction y with
  | nil => exact List.nil_lt_cons c t
  | cons a y ih => exact List.cons_lt_cons_iff.mpr (Or.inr ⟨rfl, ih⟩)

/-- A name sorts strictly after each of its proper ancestors. -/
theorem lt_of_descB {y x : Name} (h : descB y x = true) : y < x := by
  rw [descB, properPrefix_iff] at h
  obtain ⟨⟨more, hmore⟩, hlen⟩ := h
  have hne : more ≠ [] := by
    intro h0; subst h0; simp at hmore; rw [hmore] at hlen; omega
  have : x = y ++ '/' :: join '/' more := by
    rw [← join_splitOn '/' x, ← hmore, join_append '/' _ _ (splitOn_ne_nil _ _) hne, join_splitOn]
  rw [this]
  exact lt_append_cons y '/' _

theorem order_of_sorted {names : List Name} (h : StrictSorted names) :
    names.Pairwise fun x y => descB y x = false := by
  refine List.Pairwise.imp ?_ h
  intro x y hxy
  cases hd : descB y x
  · rfl
  · exact absurd (lt_of_descB hd) (List.lt_asymm hxy)

theorem nodup_of_sorted {names : List Name} (h : StrictSorted names) : names.Nodup := by
  refine List.Pairwise.imp ?_ h
  intro x y hxy hEq
  subst hEq
  exact List.lt_irrefl x hxy

/-! ### taxon names form a forest -/

theorem ancRel_descB : DedupZ.AncRel descB where
  irrefl a := by
    cases h : descB a a
    · rfl
    · rw [descB, properPrefix_iff] at h; omega
  trans := by
    intro a b c hab hbc
    rw [descB, properPrefix_iff] at *
    exact ⟨List.IsPrefix.trans hab.1 hbc.1, by omega⟩
  chain := by
    intro a b c hac hbc
    rw [descB, properPrefix_iff] at hac hbc
    rcases List.prefix_or_prefix_of_prefix hac.1 hbc.1 with h | h
    · exact (eq_or_properPrefix h).imp (splitOn_injective '/') Or.inl
    · exact (eq_or_properPrefix h).imp (fun e => (splitOn_injective '/' e).symm) Or.inr

/-- The three clauses for the pure double loop with the test `descB`, on strictly sorted names. -/
theorem clauses_of_sorted {σ : Type} [DecidableEq σ] (T : List (Name × Bag σ))
    (hs : StrictSorted (T.map Prod.fst)) (hg : GoodBags T) :
    NoInvention T (dedup (DedupLift.actOf descB) T) ∧
      UnsharedKept descB T (dedup (DedupLift.actOf descB) T) ∧
      CoveredLost descB T (dedup (DedupLift.actOf descB) T) :=
  ⟨DedupLift.noInvention_dedup T (nodup_of_sorted hs) hg,
    DedupLift.unsharedKept_dedup T (nodup_of_sorted hs) hg ancRel_descB (order_of_sorted hs),
    DedupLift.coveredLost_dedup T (nodup_of_sorted hs) hg ancRel_descB (order_of_sorted hs)⟩

theorem segments_clean {n : Name} (h : cleanB n = true) : segments n = splitOn '/' n := by
  unfold segments
  rw [List.filter_eq_self]
  simpa [cleanB, List.all_eq_true] using h

theorem ne_nil_of_clean {n : Name} (h : cleanB n = true) : n ≠ [] := by
  intro h0; subst h0; simp [cleanB, splitOn] at h

theorem isAbs_clean {n : Name} (h : cleanB n = true) : isAbs n = false := by
  cases n with
  | nil => rfl
  | cons c t =>
    by_cases hc : c = '/'
    · subst hc; simp [cleanB, splitOn] at h
    · simp [isAbs, hc]

theorem minmax_lcp (sa sb : List Name) :
    lcp (if sb < sa then sb else sa) (if sa < sb then sb else sa) = lcp sa sb := by
  by_cases h1 : sb < sa
  · have h2 : ¬ sa < sb := List.lt_asymm h1
    simp only [h1, h2, if_true, if_false]
    exact lcp_comm sb sa
  · by_cases h2 : sa < sb
    · simp only [h1, h2, if_true, if_false]
    · have : sa = sb := List.le_antisymm h1 h2
      subst this
      simp only [h1, if_false]

/-- The shape of an admissible name: a clean base `b`, the name being `b` or `b/`. -/
structure Shape (n b : Name) : Prop where
  base : cleanB b = true
  name : n = b ∨ n = b ++ ['/']

theorem shape_of_cleanTB {n : Name} (h : cleanTB n = true) : ∃ b, Shape n b := by
  unfold cleanTB at h
  rw [Bool.or_eq_true] at h
  rcases h with h | h
  · exact ⟨n, h, Or.inl rfl⟩
  · split at h
    · rename_i r hr
      refine ⟨r.reverse, h, Or.inr ?_⟩
      have := congrArg List.reverse hr
      simpa using this
    · cases h

theorem nil_not_mem_of_clean {b : Name} (h : cleanB b = true) : [] ∉ splitOn '/' b := by
  intro hmem
  have := (List.all_eq_true.mp h) [] hmem
  simp at this

theorem Shape.segs {n b : Name} (h : Shape n b) : segments n = splitOn '/' b := by
  rcases h.name with rfl | rfl
  · exact segments_clean h.base
  · unfold segments
    rw [splitOn_snoc_sep, List.filter_append]
    have h1 := segments_clean h.base
    unfold segments at h1
    rw [h1]; simp

theorem Shape.notAbs {n b : Name} (h : Shape n b) : isAbs n = false := by
  have hb := isAbs_clean h.base
  have hne := ne_nil_of_clean h.base
  rcases h.name with rfl | rfl
  · exact hb
  · cases b with
    | nil => exact absurd rfl hne
    | cons c t => simpa [Dedup.isAbs] using hb

theorem Shape.split {n b : Name} (h : Shape n b) :
    splitOn '/' n = splitOn '/' b ∨ splitOn '/' n = splitOn '/' b ++ [[]] := by
  rcases h.name with rfl | rfl
  · exact Or.inl rfl
  · exact Or.inr (splitOn_snoc_sep '/' b)

/-- The two tests of the inner loop, on admissible names, in terms of the clean bases. -/
theorem actE_shape {n p bn bp : Name} (hn : Shape n bn) (hp : Shape p bp) :
    actE n p = .ok (!(join '/' (lcp (splitOn '/' bn) (splitOn '/' bp)) == []) &&
      p == join '/' (lcp (splitOn '/' bn) (splitOn '/' bp))) := by
  unfold actE commonpath
  simp only [hn.notAbs, hp.notAbs, bne_self_eq_false, Bool.false_eq_true, if_false,
    hn.segs, hp.segs, minmax_lcp, List.nil_append]

/-- A name that is the joined common prefix splits into it: the segments of `bn` contain no `/`. -/
theorem splitOn_of_eq_join_lcp {x bn : Name} {l : List Name}
    (hnil : lcp (splitOn '/' bn) l ≠ []) (h : x = join '/' (lcp (splitOn '/' bn) l)) :
    splitOn '/' x = lcp (splitOn '/' bn) l := by
  rw [h]
  exact splitOn_join _ _ hnil fun s hs => sep_not_mem_splitOn '/' bn s ((lcp_prefix_left _ _).subset hs)

/-- `p = join (lcp sn sp)` (non-empty) exactly when the segments of `p` are a prefix of `sn`. -/
theorem test_eq_prefix {bn p : Name} (hp : cleanB p = true) :
    (!(join '/' (lcp (splitOn '/' bn) (splitOn '/' p)) == []) &&
      p == join '/' (lcp (splitOn '/' bn) (splitOn '/' p)))
      = decide (splitOn '/' p <+: splitOn '/' bn) := by
  by_cases hpre : splitOn '/' p <+: splitOn '/' bn
  · rw [lcp_of_prefix hpre, join_splitOn]
    simp [ne_nil_of_clean hp, hpre]
  · simp only [hpre, decide_false]
    by_cases hnil : lcp (splitOn '/' bn) (splitOn '/' p) = []
    · simp [hnil, join]
    · have : p ≠ join '/' (lcp (splitOn '/' bn) (splitOn '/' p)) := fun hEq =>
        hpre (splitOn_of_eq_join_lcp hnil hEq ▸ lcp_prefix_left _ _)
      simp [this]

/-- A name with a trailing `/` is never equal to a joined list of non-empty segments. -/
theorem test_trailing_false {bn bp : Name} (hbn : cleanB bn = true) :
    (!(join '/' (lcp (splitOn '/' bn) (splitOn '/' bp)) == []) &&
      (bp ++ ['/']) == join '/' (lcp (splitOn '/' bn) (splitOn '/' bp))) = false := by
  by_cases hnil : lcp (splitOn '/' bn) (splitOn '/' bp) = []
  · simp [hnil, join]
  · have : bp ++ ['/'] ≠ join '/' (lcp (splitOn '/' bn) (splitOn '/' bp)) := fun hEq => by
      have := splitOn_of_eq_join_lcp hnil hEq
      rw [splitOn_snoc_sep] at this
      have hmem : ([] : Name) ∈ lcp (splitOn '/' bn) (splitOn '/' bp) := by rw [← this]; simp
      exact nil_not_mem_of_clean hbn ((lcp_prefix_left _ _).subset hmem)
    simp [this]

/-- On admissible, distinct names the two tests of the inner loop say: "the previous name is a
proper segment-prefix of the current one" (a trailing `/` counts as a last, empty segment). In
particular `commonpath` does not raise. -/
theorem actE_clean {n p : Name} (hn : cleanTB n = true) (hp : cleanTB p = true) (hne : p ≠ n) :
    actE n p = .ok (descB p n) := by
  obtain ⟨bn, hsn⟩ := shape_of_cleanTB hn
  obtain ⟨bp, hsp⟩ := shape_of_cleanTB hp
  rw [actE_shape hsn hsp]
  congr 1
  have hbn0 := nil_not_mem_of_clean hsn.base
  rcases hsp.name with hpe | hpe
  · -- the previous name is clean
    subst hpe
    rw [test_eq_prefix hsp.base, Bool.eq_iff_iff, decide_eq_true_iff, descB, properPrefix_iff]
    rcases hsn.name with hne' | hne'
    · subst hne'
      -- both clean: prefix and different, i.e. proper prefix
      exact ⟨fun hpre => (eq_or_properPrefix hpre).elim (fun e => absurd (splitOn_injective '/' e) hne)
        (properPrefix_iff _ _).mp, And.left⟩
    · subst hne'
      -- current name `bn/`: its segment list is `splitOn bn ++ [[]]`
      rw [splitOn_snoc_sep]
      refine ⟨fun hpre => ⟨hpre.trans (List.prefix_append _ _), ?_⟩, fun h =>
        List.prefix_of_prefix_length_le h.1 (List.prefix_append _ _) ?_⟩
      · have := hpre.length_le; simp; omega
      · have := h.2; simp at this; omega
  · -- the previous name has a trailing `/`: never an ancestor
    subst hpe
    rw [test_trailing_false hsn.base, eq_comm, Bool.eq_false_iff]
    intro h
    rw [descB, properPrefix_iff, splitOn_snoc_sep] at h
    rcases hsn.split with hs | hs
    · rw [hs] at h
      exact hbn0 (h.1.subset (by simp))
    · rw [hs] at h
      have : splitOn '/' bp ++ [[]] <+: splitOn '/' bn :=
        List.prefix_of_prefix_length_le h.1 (List.prefix_append _ _) (by
          have := h.2; simp at this ⊢; omega)
      exact hbn0 (this.subset (by simp))

/-- On strictly sorted admissible names every test the loops make (an earlier name against a later one)
succeeds and is "proper segment-prefix". -/
theorem actE_pairwise {names : List Name} (hs : StrictSorted names) (hc : CleanNames names) :
    names.Pairwise fun p n => actE n p = .ok (DedupLift.actOf descB n p) := by
  rw [List.pairwise_iff_forall_sublist]
  intro p n hsub
  have hp : p ∈ names := hsub.subset (by simp)
  have hn : n ∈ names := hsub.subset (by simp)
  have hlt : p < n := (List.pairwise_iff_forall_sublist.mp hs) hsub
  have hne : p ≠ n := fun h => by subst h; exact List.lt_irrefl p hlt
  exact actE_clean (hc n hn) (hc p hp) hne

end Paroxy.Commonpath
