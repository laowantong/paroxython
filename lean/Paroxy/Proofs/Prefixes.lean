/- `joinWith sep` undoes `splitOn sep`, both split at a separator, and hence `prefixes` lists a taxon and its
ancestors (`mem_prefixes`). -/
import Paroxy.Model.Filter
namespace Paroxy.Filter
open Paroxy

theorem splitOn_cons (sep ch : Nat) (s : Codes) :
    splitOn sep (ch :: s) = if ch = sep then [] :: splitOn sep s
      else match splitOn sep s with
        | [] => [[ch]]
        | h :: t => (ch :: h) :: t := rfl

theorem splitOn_ne_nil (sep : Nat) (s : Codes) : splitOn sep s ≠ [] := by
  induction s with
  | nil => simp [splitOn]
  | cons ch t ih =>
    rw [splitOn_cons]
    split
    · simp
    · split <;> simp

theorem joinWith_cons_cons (sep : Nat) (a b : Codes) (t : List Codes) :
    joinWith sep (a :: b :: t) = a ++ sep :: joinWith sep (b :: t) := rfl

theorem joinWith_splitOn (sep : Nat) (s : Codes) : joinWith sep (splitOn sep s) = s := by
  induction s with
  | nil => rfl
  | cons ch t ih =>
    rw [splitOn_cons]
    cases hs : splitOn sep t with
    | nil => exact absurd hs (splitOn_ne_nil _ _)
    | cons a r =>
      rw [hs] at ih
      split
      · rename_i h; subst h; rw [joinWith_cons_cons, ih]; rfl
      · cases r <;> exact congrArg (ch :: ·) ih

theorem splitOn_append_sep (sep : Nat) (a b : Codes) :
    splitOn sep (a ++ sep :: b) = splitOn sep a ++ splitOn sep b := by
  induction a with
  | nil => simp [splitOn]
  | cons ch t ih =>
    rw [List.cons_append, splitOn_cons, splitOn_cons, ih]
    split
    · rfl
    · cases hs : splitOn sep t with
      | nil => exact absurd hs (splitOn_ne_nil _ _)
      | cons h r => rfl

theorem joinWith_append (sep : Nat) (a b : List Codes) (ha : a ≠ []) (hb : b ≠ []) :
    joinWith sep (a ++ b) = joinWith sep a ++ sep :: joinWith sep b := by
  induction a with
  | nil => exact absurd rfl ha
  | cons x t ih =>
    cases t with
    | nil =>
      cases b with
      | nil => exact absurd rfl hb
      | cons y r => simp [joinWith]
    | cons y r =>
      have := ih (by simp)
      simp only [List.cons_append, joinWith_cons_cons] at this ⊢
      rw [this]
      simp

/-- The `prefixes` of `u` are `u` and every `t` with `t/` a string prefix of `u`. -/
theorem mem_prefixes (t u : Codes) : t ∈ prefixes u ↔ t = u ∨ (t ++ [47]) <+: u := by
  unfold prefixes
  simp only [List.mem_map, List.mem_range]
  constructor
  · rintro ⟨k, hk, rfl⟩
    by_cases hd : (splitOn 47 u).drop (k + 1) = []
    · left
      rw [List.take_of_length_le (List.drop_eq_nil_iff.mp hd), joinWith_splitOn]
    · right
      have hne : (splitOn 47 u).take (k + 1) ≠ [] := fun h => by
        rcases List.take_eq_nil_iff.mp h with h | h
        · omega
        · exact splitOn_ne_nil _ _ h
      refine ⟨joinWith 47 ((splitOn 47 u).drop (k + 1)), ?_⟩
      rw [List.append_assoc, List.singleton_append, ← joinWith_append 47 _ _ hne hd, List.take_append_drop,
        joinWith_splitOn]
  · have hpos := List.length_pos_iff.mpr (splitOn_ne_nil 47 t)
    have hk : (splitOn 47 t).length - 1 + 1 = (splitOn 47 t).length := by omega
    rintro (rfl | ⟨rest, hr⟩)
    · exact ⟨(splitOn 47 t).length - 1, by omega, by rw [hk, List.take_length, joinWith_splitOn]⟩
    · obtain rfl : u = t ++ 47 :: rest := by rw [← hr]; simp
      refine ⟨(splitOn 47 t).length - 1, by rw [splitOn_append_sep, List.length_append]; omega, ?_⟩
      rw [splitOn_append_sep, hk, List.take_left', joinWith_splitOn]
      rfl

end Paroxy.Filter
