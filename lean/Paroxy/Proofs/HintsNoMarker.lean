/-
For EVERY text: the source `get_program` stores shows no hint marker `# paroxython:` any more
(`source_noMarker`). This is the repaired finding F46 as a theorem: `remove_hints` deletes the hint
comments with or without a space after the colon.
-/
import Paroxy.Proofs.HintsSpaced
namespace Paroxy.Hints

variable {O : CharOracle}

theorem subHints_noM13 (l : Str) (h : '\n' ∉ l) : noM13 ((subHints O) false l) = true := by
  rw [noM13, Bool.not_eq_true']
  induction l with
  | nil => simp [subHints, hasInfix, m13]
  | cons c t ih =>
    have ht : '\n' ∉ t := fun e => h (List.mem_cons_of_mem _ e)
    simp only [subHints, Bool.false_and, Bool.false_eq_true, if_false]
    split
    · rw [subHints_true_noNL t ht]; simp [hasInfix, m13]
    · rename_i hah
      simp only [hasInfix, ih ht, Bool.or_false]
      rw [← Bool.not_eq_true, List.isPrefixOf_iff_prefix]
      intro hp
      apply hah
      have hp2 : m13 <+: c :: t := hp.trans ((List.cons_prefix_cons).mpr ⟨rfl, subHints_prefix t ht⟩)
      have hc : c = '#' := by
        obtain ⟨s, hs⟩ := hp2
        simp [m13] at hs
        exact hs.1.symm
      subst hc
      unfold hintAhead
      rw [List.dropWhile_cons_of_neg (ne_true_of_eq_false rfl), List.isPrefixOf_iff_prefix]
      exact hp2

theorem infix_sep {p a b : Str} {sep : Char} (hs : sep ∉ p) (h : p <:+: a ++ sep :: b) : p <:+: a ∨ p <:+: b := by
  induction a with
  | nil =>
    rcases List.infix_cons_iff.mp (by simpa using h) with h | h
    · exact Or.inl (prefix_before_sep (a := []) hs (by simpa using h)).isInfix
    · exact Or.inr h
  | cons x a ih =>
    rcases List.infix_cons_iff.mp (by simpa using h) with h | h
    · exact Or.inl (prefix_before_sep (a := x :: a) hs (by simpa using h)).isInfix
    · rcases ih h with h | h
      · exact Or.inl (List.infix_cons h)
      · exact Or.inr h

theorem joinNL_noM13 (ls : List Str) (h : ∀ l ∈ ls, noM13 l = true) : noM13 (joinNL ls) = true := by
  induction ls with
  | nil => rfl
  | cons l t ih =>
    cases t with
    | nil => exact h l List.mem_cons_self
    | cons l2 t2 =>
      rw [joinNL_cons_cons, noM13_iff]
      intro hin
      rcases infix_sep (by decide) hin with h1 | h1
      · exact (noM13_iff l).mp (h l List.mem_cons_self) h1
      · exact (noM13_iff _).mp (ih fun x hx => h x (List.mem_cons_of_mem _ hx)) h1

theorem stripPy_infix (s : Str) : (stripPy O) s <:+: s := by
  obtain ⟨pre, suf, h, _, _⟩ := trimBoth_decomp (isSpacePy O) s
  exact ⟨pre, suf, by rw [List.append_assoc]; exact h.symm⟩

theorem source_noMarker (src : Str) (p : Program) (h : (getProgram O) src = .ok p) : noM13 p.source = true := by
  obtain ⟨c, hc, _, hps⟩ := getProgramFrom_ok h
  obtain ⟨ls, rfl, hK⟩ := centrifugate_kept _ c (prepare_spaced src) hc
  rw [hps, removeHints_joinNL hK]
  exact noM13_of_infix (joinNL_noM13 _ (List.forall_mem_map.mpr fun l hl => subHints_noM13 l (hK.nonl l hl)))
    (stripPy_infix _)

end Paroxy.Hints
