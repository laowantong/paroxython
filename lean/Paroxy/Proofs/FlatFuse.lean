/-
C15: the six staged tree-level tweaks equal the one-shot specification `tweak`. `S3` is the first half of the
pipeline (what depends on the path text), `T3` the second (what depends on node shapes); each is computed on every
constructor once, and the induction compares `T3 ∘ S3` with `tweak` under the name path.
-/
import Paroxy.Proofs.FlatNeg
namespace Paroxy.Flat

theorem encNames_ne_nil_of_ne {ns : List Str} (h : ns ≠ []) : encNames ns ≠ [] := by
  cases ns with
  | nil => exact absurd rfl h
  | cons n ns => simp [encNames]

theorem encNames_reverse_cons (a : Str) (rn : List Str) :
    encNames (a :: rn).reverse = encNames rn.reverse ++ '/' :: a := by
  simp [encNames_append, encNames]

/-- A path text determines its last name, names being free of `/`. -/
theorem encNames_reverse_last {a c X : Str} {rn : List Str} (ha : '/' ∉ a) (hc : '/' ∉ c)
    (h : encNames (a :: rn).reverse = X ++ '/' :: c) : encNames rn.reverse = X ∧ a = c := by
  rw [encNames_reverse_cons] at h
  exact split_last_unique ha hc h

/-- The text condition of the pass and the name-path condition of `tweak` agree. -/
theorem posonlyPre_eq_posPat (rn : List Str) (hrn : ∀ n ∈ rn, '/' ∉ n) :
    posonlyPre (encNames rn.reverse) = posPat rn := by
  rw [Bool.eq_iff_iff, posonlyPre_iff]
  constructor
  · rintro ⟨X, hX, h⟩
    rw [show X ++ posonlyKey = (X ++ '/' :: cs!"args") ++ '/' :: cs!"posonlyargs" by simp [posonlyKey]] at h
    cases rn with
    | nil => simp [encNames] at h
    | cons a rn =>
      obtain ⟨h1, rfl⟩ := encNames_reverse_last (hrn a (.head _)) (by decide +kernel) h
      cases rn with
      | nil => simp [encNames] at h1
      | cons b rn =>
        obtain ⟨h2, rfl⟩ := encNames_reverse_last (hrn b (.tail _ (.head _))) (by decide +kernel) h1
        cases rn with
        | nil => exact absurd h2.symm hX
        | cons c rn => rfl
  · intro h
    match rn, h with
    | a :: b :: c :: rn, h =>
      simp only [posPat, Bool.and_eq_true, beq_iff_eq] at h
      rw [h.1, h.2, encNames_reverse_cons, encNames_reverse_cons]
      exact ⟨encNames (c :: rn).reverse, encNames_ne_nil_of_ne (by simp), by simp [posonlyKey]⟩

/-- The first three tweaks (`kind` fields, alias positions, `posonlyargs` lengths). -/
def S3 (b : Bool) (pre : Str) (v : Val) : Val := quietPosonly pre (dropAliasPos b (dropKinds b v))
def S3F (b : Bool) (pre : Str) (fs : List (Str × Val)) : List (Str × Val) :=
  quietPosonlyFields pre (dropAliasPosFields (dropKindsFields b fs))
def S3I (pre : Str) (i : Nat) (xs : List Val) : List Val :=
  quietPosonlyItems pre i (dropAliasPosItems (dropKindsItems xs))
/-- The last three tweaks (constants, negative literals, quotes). -/
def T3 (v : Val) : Val := unquoteTree (foldNeg (backportTree v))
def T3F (fs : List (Str × Val)) : List (Str × Val) := unquoteTreeFields (foldNegFields (backportFields fs))
def T3I (xs : List Val) : List Val := unquoteTreeItems (foldNegItems (backportItems xs))

/-- The six staged tweaks of a value hanging under the reversed name path `rn`. -/
def S (rn : List Str) (v : Val) : Val := T3 (S3 (!rn.isEmpty) (encNames rn.reverse) v)

theorem S3_node (b : Bool) (pre ty : Str) (e : Bool) (r : Str) (ln : Option Nat) (fs : List (Str × Val)) :
    S3 b pre (.node ty e r ln fs) =
      .node ty e r (if ty == cs!"alias" && !e && b then none else ln) (S3F b pre fs) := by
  rw [Bool.and_comm]
  simp only [S3, S3F, dropKinds, dropAliasPos, quietPosonly, Bool.and_assoc]

theorem S3_list (b : Bool) (pre : Str) (q : Bool) (xs : List Val) :
    S3 b pre (.list q xs) = .list (q || posonlyPre pre) (S3I pre 1 xs) := rfl

theorem S3_scalar (b : Bool) (pre r : Str) (k : Kind) : S3 b pre (.scalar r k) = .scalar r k := rfl

theorem S3F_nil (b : Bool) (pre : Str) : S3F b pre [] = [] := rfl

theorem S3F_cons (b : Bool) (pre n : Str) (v : Val) (rest : List (Str × Val)) :
    S3F b pre ((n, v) :: rest) =
      if isScalarField (n, v) && n == cs!"kind" && b then S3F b pre rest
      else (n, S3 true (subPre pre n) v) :: S3F b pre rest := by
  cases v with
  | scalar r k =>
    rw [isScalarField, Bool.true_and, Bool.and_comm, S3_scalar]
    by_cases h : (b && n == cs!"kind") = true
    · simp [S3F, dropKindsFields, h]
    · simp [S3F, dropKindsFields, h, dropAliasPosFields, dropAliasPos, quietPosonlyFields, quietPosonly]
  | node ty e r ln fs => simp [S3F, S3, dropKindsFields, dropAliasPosFields, quietPosonlyFields, isScalarField]
  | list q xs => simp [S3F, S3, dropKindsFields, dropAliasPosFields, quietPosonlyFields, isScalarField]

theorem S3I_nil (pre : Str) (i : Nat) : S3I pre i [] = [] := rfl

theorem S3I_cons (pre : Str) (i : Nat) (v : Val) (rest : List Val) :
    S3I pre i (v :: rest) = S3 true (subPre pre (dec i)) v :: S3I pre (i + 1) rest := rfl

theorem T3_scalar (r : Str) (k : Kind) : T3 (.scalar r k) = .scalar (unquoteScalar r k) k := rfl

theorem T3_list (q : Bool) (xs : List Val) : T3 (.list q xs) = .list q (T3I xs) := rfl

theorem backportTree_node {ty : Str} (h : (ty == cs!"Constant") = false) (e : Bool) (r : Str) (ln : Option Nat)
    (fs : List (Str × Val)) : backportTree (.node ty e r ln fs) = .node ty e r ln (backportFields fs) := by
  simp only [backportTree, constShape, h, Bool.false_eq_true, ↓reduceIte]

theorem negShape_of_ne {ty : Str} (h : (ty == cs!"UnaryOp") = false) (fs : List (Str × Val)) :
    negShape ty fs = none := by
  simp only [negShape, h, Bool.false_eq_true, ↓reduceIte]

theorem T3_node_generic {ty : Str} (e : Bool) (r : Str) (ln : Option Nat) {fs : List (Str × Val)}
    (h1 : (ty == cs!"Constant") = false) (h2 : negShape ty (backportFields fs) = none) :
    T3 (.node ty e r ln fs) = .node ty e r ln (T3F fs) := by
  simp only [T3, T3F, backportTree_node h1, foldNeg, h2, unquoteTree]

theorem T3_node_neg {ty : Str} (e : Bool) (r : Str) (ln : Option Nat) {fs : List (Str × Val)} {rv : Str}
    (h1 : (ty == cs!"Constant") = false) (h2 : negShape ty (backportFields fs) = some (rv, Kind.num)) :
    T3 (.node ty e r ln fs) = .node cs!"Num" e r ln [(cs!"n", .scalar ('-' :: rv) .num)] := by
  simp only [T3, backportTree_node h1, foldNeg, h2, unquoteTree, unquoteTreeFields, unquoteScalar]

theorem T3F_nil : T3F [] = [] := rfl

theorem T3F_cons (n : Str) (v : Val) (rest : List (Str × Val)) : T3F ((n, v) :: rest) = (n, T3 v) :: T3F rest := rfl

theorem T3I_nil : T3I [] = [] := rfl

theorem T3I_cons (v : Val) (rest : List Val) : T3I (v :: rest) = T3 v :: T3I rest := rfl

theorem S_child (rn : List Str) (n : Str) (v : Val) :
    T3 (S3 true (subPre (encNames rn.reverse) n) v) = S (n :: rn) v := by
  unfold S
  rw [encNames_reverse_cons]
  simp [subPre]

theorem constantKindOfRepr_of_agrees {rv : Str} {k : Kind} (h : reprKindAgrees rv k = true) :
    constantKindOfRepr rv = (kindTypeName k, kindFieldName k) := by
  simp only [reprKindAgrees, Bool.and_eq_true, beq_iff_eq] at h
  exact Prod.ext h.1 h.2

theorem constKind?_node {ty : Str} (h : (ty == cs!"Constant") = false) (e : Bool) (r : Str) (ln : Option Nat)
    (fs : List (Str × Val)) : constKind? (.node ty e r ln fs) = none := by
  simp only [constKind?, h, Bool.false_eq_true, ↓reduceIte]

theorem negLiteral?_of_ne {ty : Str} (h : (ty == cs!"UnaryOp") = false) (fs : List (Str × Val)) :
    negLiteral? ty fs = none := by
  simp only [negLiteral?, h, Bool.false_eq_true, ↓reduceIte]

theorem constOkT_cases {fs : List (Str × Val)} (h : constOkT fs = true) :
    ∃ rv k rest, fs = (cs!"value", .scalar rv k) :: rest ∧ reprKindAgrees rv k = true ∧
      (rest = [] ∨ ∃ rk kk, rest = [(cs!"kind", .scalar rk kk)]) := by
  unfold constOkT at h
  split at h
  · simp only [Bool.and_eq_true, beq_iff_eq] at h
    exact ⟨_, _, [], by rw [h.1], h.2, Or.inl rfl⟩
  · simp only [Bool.and_eq_true, beq_iff_eq] at h
    obtain ⟨⟨rfl, rfl⟩, hag⟩ := h
    exact ⟨_, _, _, rfl, hag, Or.inr ⟨_, _, rfl⟩⟩
  · cases h

section
variable {e : Bool} {r : Str} {ln : Option Nat} {rv : Str} {k : Kind} {rest : List (Str × Val)}

theorem constKind?_const :
    constKind? (.node cs!"Constant" e r ln ((cs!"value", .scalar rv k) :: rest)) = some (rv, k) := rfl

theorem S3_const (b : Bool) (pre : Str) :
    S3 b pre (.node cs!"Constant" e r ln ((cs!"value", .scalar rv k) :: rest)) =
      .node cs!"Constant" e r ln ((cs!"value", .scalar rv k) :: S3F b pre rest) := by
  have h1 : (cs!"Constant" == cs!"alias") = false := by decide +kernel
  have h2 : (cs!"value" == cs!"kind") = false := by decide +kernel
  simp only [S3_node, S3F_cons, S3_scalar, h1, h2, Bool.and_false, Bool.false_and, Bool.false_eq_true, if_false]

/-- The value field of a back-ported constant of kind `k`. -/
def valueField (r : Str) (k : Kind) : List (Str × Val) :=
  match kindFieldName k with
  | some f => [(f, .scalar r k)]
  | none => []

theorem backportTree_const (h : reprKindAgrees rv k = true) :
    backportTree (.node cs!"Constant" e r ln ((cs!"value", .scalar rv k) :: rest)) =
      .node (kindTypeName k) e r ln (valueField rv k ++ rest) := by
  have hs : constShape cs!"Constant" ((cs!"value", .scalar rv k) :: rest) = some (rv, k, rest) := rfl
  simp only [backportTree, hs, constantKindOfRepr_of_agrees h, valueField]
  cases kindFieldName k <;> rfl

/-- The fields after `value` are not back-ported. -/
theorem T3_const (h : reprKindAgrees rv k = true) :
    T3 (.node cs!"Constant" e r ln ((cs!"value", .scalar rv k) :: rest)) =
      .node (kindTypeName k) e r ln (valueField (unquoteScalar rv k) k ++ unquoteTreeFields (foldNegFields rest)) := by
  have hk : (kindTypeName k == cs!"UnaryOp") = false := by cases k <;> rfl
  simp only [T3, backportTree_const h, foldNeg, negShape_of_ne hk, unquoteTree, valueField]
  cases kindFieldName k <;>
    simp only [List.nil_append, List.cons_append, foldNegFields, foldNeg, unquoteTreeFields, unquoteTree]

theorem tweak_const (rn : List Str) :
    tweak rn (.node cs!"Constant" e r ln ((cs!"value", .scalar rv k) :: rest)) =
      .node (kindTypeName k) e r ln (valueField (unquoteScalar rv k) k ++ tweakFields rn true rest) := by
  have h1 : (cs!"Constant" == cs!"UnaryOp") = false := by decide +kernel
  have h2 : (cs!"Constant" == cs!"alias") = false := by decide +kernel
  have h3 : (cs!"value" == cs!"kind") = false := by decide +kernel
  simp only [tweak, negLiteral?_of_ne h1, constKind?_const, tweakFields, valueField, h2, h3]
  cases kindFieldName k <;> rfl

end

theorem fuse_const (rn : List Str) (e : Bool) (r : Str) (ln : Option Nat) (fs : List (Str × Val))
    (h : constOkT fs = true) :
    S rn (.node cs!"Constant" e r ln fs) = tweak rn (.node cs!"Constant" e r ln fs) := by
  obtain ⟨rv, k, rest, rfl, hag, hrest⟩ := constOkT_cases h
  rw [S, S3_const, T3_const hag, tweak_const]
  congr 2
  rcases hrest with rfl | ⟨rk, kk, rfl⟩
  · rfl
  · have hv : (cs!"kind" == cs!"value") = false := by decide +kernel
    rw [S3F_cons, S3F_nil]
    simp only [tweakFields, beq_self_eq_true, hv, Bool.true_and, Bool.and_false, Bool.false_eq_true, ↓reduceIte]
    cases rn.isEmpty <;> rfl

theorem names_backportFields : ∀ fs : List (Str × Val), (backportFields fs).map (·.1) = fs.map (·.1)
  | [] => rfl
  | (n, v) :: rest => by simp [backportFields, names_backportFields rest]

theorem names_S3F_sublist (b : Bool) (pre : Str) :
    ∀ fs : List (Str × Val), ((S3F b pre fs).map (·.1)).Sublist (fs.map (·.1))
  | [] => by rw [S3F_nil]; exact .slnil
  | (n, v) :: rest => by
    rw [S3F_cons]
    split
    · exact .cons _ (names_S3F_sublist b pre rest)
    · exact .cons_cons _ (names_S3F_sublist b pre rest)

theorem backport_S3_bare (p t1 r1 : Str) :
    backportTree (S3 true p (.node t1 false r1 none [])) = .node t1 false r1 none [] := by
  simp [S3_node, S3F_nil, backportTree, constShape, backportFields]

theorem S_bare (rn : List Str) (t1 r1 : Str) :
    T3 (S3 true (encNames rn.reverse) (.node t1 false r1 none [])) = .node t1 false r1 none [] := by
  simp [T3, backport_S3_bare, foldNeg, negShape, foldNegFields, unquoteTree, unquoteTreeFields]

theorem tweak_bare (rn : List Str) (t1 r1 : Str) :
    tweak rn (.node t1 false r1 none []) = .node t1 false r1 none [] := by
  by_cases h : (t1 == cs!"Constant") = true
  · simp [tweak, negLiteral?, constKind?, h, findField, tweakFields]
  · simp [tweak, negLiteral?, constKind?, h, tweakFields]

theorem unaryOkT_cases {fs : List (Str × Val)} (h : unaryOkT fs = true) :
    ∃ t1 r1 t2 e2 r2 ln2 fs2,
      fs = [(cs!"op", .node t1 false r1 none []), (cs!"operand", .node t2 e2 r2 ln2 fs2)] ∧
        (t2 = cs!"Constant" ∨ cs!"n" ∉ fs2.map (·.1)) := by
  unfold unaryOkT at h
  split at h
  · simp only [Bool.and_eq_true, Bool.or_eq_true, Bool.not_eq_true', beq_iff_eq, List.isEmpty_iff,
      Option.isNone_iff_eq_none, List.contains_eq_mem, decide_eq_false_iff_not] at h
    obtain ⟨⟨⟨⟨⟨⟨rfl, rfl⟩, rfl⟩, rfl⟩, rfl⟩, _⟩, hrest⟩ := h
    exact ⟨_, _, _, _, _, _, _, rfl, hrest⟩
  · cases h

/-- After the first four tweaks, the shape test of `simplify_negative_literals` recognises exactly the
`-literal` of the specification. -/
theorem negShape_unary (b : Bool) (pre : Str) {fs : List (Str × Val)} (hU : unaryOkT fs = true)
    (hwf : wfTweakFields fs = true) :
    negShape cs!"UnaryOp" (backportFields (S3F b pre fs)) =
      (negLiteral? cs!"UnaryOp" fs).map (fun rv => (rv, Kind.num)) := by
  obtain ⟨t1, r1, t2, e2, r2, ln2, fs2, rfl, hop⟩ := unaryOkT_cases hU
  simp only [S3F_cons, S3F_nil, isScalarField, Bool.false_and, Bool.false_eq_true, backportFields, backport_S3_bare,
    negShape, negLiteral?, isUSubNode, beq_self_eq_true, Bool.true_and, Bool.and_true, ↓reduceIte]
  by_cases ht1 : (t1 == cs!"USub") = true
  case neg => rw [if_neg ht1, if_neg ht1]; rfl
  rw [if_pos ht1, if_pos ht1]
  by_cases ht2 : t2 = cs!"Constant"
  · -- a constant becomes a node whose only field is its value field, called `n` exactly for a number
    subst ht2
    simp only [wfTweakFields, wfTweak, beq_self_eq_true, ↓reduceIte, Bool.and_eq_true] at hwf
    obtain ⟨rv, k, rest, rfl, hag, hrest⟩ := constOkT_cases hwf.2.1.1.2
    -- below the root the optional `kind` field is dropped
    have hr : S3F true (subPre pre cs!"operand") rest = [] := by
      rcases hrest with rfl | ⟨rk, kk, rfl⟩
      · exact S3F_nil _ _
      · rw [S3F_cons, S3F_nil]; rfl
    rw [S3_const, backportTree_const hag, hr, constKind?_const]
    cases k <;> rfl
  · -- any other operand keeps its field names, `n` not among them
    have ht2' := beq_false_of_ne ht2
    rw [S3_node, backportTree_node ht2', constKind?_node ht2', onlyN_none]
    · rfl
    · intro hm
      rw [names_backportFields] at hm
      exact hop.resolve_left ht2 ((names_S3F_sublist _ _ fs2).subset hm)

mutual
theorem fuse_tree : ∀ (v : Val) (rn : List Str), (∀ n ∈ rn, '/' ∉ n) → wfTweak v = true → S rn v = tweak rn v
  | .node ty e r ln fs, rn, hrn, hwf => by
    simp only [wfTweak, Bool.and_eq_true] at hwf
    obtain ⟨⟨hnames, hshape⟩, hfs⟩ := hwf
    by_cases hC : ty = cs!"Constant"
    · subst hC
      exact fuse_const rn e r ln fs hshape  -- `hshape` evaluates to `constOkT fs = true`
    · have hC' := beq_false_of_ne hC
      have generic : negShape ty (backportFields (S3F (!rn.isEmpty) (encNames rn.reverse) fs)) = none →
          negLiteral? ty fs = none → S rn (.node ty e r ln fs) = tweak rn (.node ty e r ln fs) := by
        intro h2 h3
        rw [S, S3_node, T3_node_generic _ _ _ hC' h2, fuse_fields fs rn hrn hnames hfs]
        simp only [tweak, h3, constKind?_node hC', hC']
      by_cases hU : ty = cs!"UnaryOp"
      · subst hU
        have hN := negShape_unary (!rn.isEmpty) (encNames rn.reverse) hshape hfs
        cases hL : negLiteral? cs!"UnaryOp" fs with
        | none => rw [hL] at hN; exact generic hN hL
        | some rv =>
          rw [hL] at hN
          rw [S, S3_node, T3_node_neg _ _ _ hC' hN, tweak, hL]
          rfl
      · have hU' := beq_false_of_ne hU
        exact generic (negShape_of_ne hU' _) (negLiteral?_of_ne hU' _)
  | .list q xs, rn, hrn, hwf => by
    simp only [wfTweak] at hwf
    have ih := fuse_items xs rn 1 hrn hwf
    rw [S, S3_list, T3_list, ih, posonlyPre_eq_posPat rn hrn]
    rfl
  | .scalar r k, rn, _, _ => by
    rw [S, S3_scalar, T3_scalar]
    rfl
theorem fuse_fields : ∀ (fs : List (Str × Val)) (rn : List Str), (∀ n ∈ rn, '/' ∉ n) →
    (fs.map (·.1)).all nameOk = true → wfTweakFields fs = true →
    T3F (S3F (!rn.isEmpty) (encNames rn.reverse) fs) = tweakFields rn false fs
  | [], rn, _, _, _ => by rw [S3F_nil, T3F_nil]; rfl
  | (n, v) :: rest, rn, hrn, hnames, hwf => by
    simp only [List.map_cons, List.all_cons, Bool.and_eq_true] at hnames
    simp only [wfTweakFields, Bool.and_eq_true] at hwf
    have ih := fuse_fields rest rn hrn hnames.2 hwf.2
    have hrn' : ∀ x ∈ n :: rn, '/' ∉ x := List.forall_mem_cons.mpr ⟨(nameOk_iff.mp hnames.1).2, hrn⟩
    rw [S3F_cons]
    cases v with
    | scalar r k =>
      rw [isScalarField, Bool.true_and, S3_scalar]
      by_cases hk : (n == cs!"kind" && !rn.isEmpty) = true
      · rw [if_pos hk, ih]
        simp only [tweakFields, hk, ↓reduceIte]
      · rw [if_neg hk, T3F_cons, T3_scalar, ih]
        simp [tweakFields, hk]
    | _ => rw [if_neg (by simp [isScalarField]), T3F_cons, S_child, fuse_tree _ _ hrn' hwf.1, ih]; rfl
theorem fuse_items : ∀ (xs : List Val) (rn : List Str) (i : Nat), (∀ n ∈ rn, '/' ∉ n) →
    wfTweakItems xs = true → T3I (S3I (encNames rn.reverse) i xs) = tweakItems rn i xs
  | [], rn, i, _, _ => by rw [S3I_nil, T3I_nil]; rfl
  | v :: rest, rn, i, hrn, hwf => by
    simp only [wfTweakItems, Bool.and_eq_true] at hwf
    have ih := fuse_items rest rn (i + 1) hrn hwf.2
    have ihv := fuse_tree v (dec i :: rn) (List.forall_mem_cons.mpr ⟨slash_not_mem_dec i, hrn⟩) hwf.1
    rw [S3I_cons, T3I_cons, S_child, ihv, ih]
    rfl
end

/-- **The six staged tweaks are the one-shot specification.** -/
theorem stage6_eq_tweak (t : Val) (h : wfTweak t = true) : stage6 t = tweak [] t :=
  fuse_tree t [] (by simp) h

end Paroxy.Flat
