/-
Helper lemmas for C12, character level: what the string primitives and the four hand-transcribed
regexes of Model/Hints.lean do on the text written by `decorate`.
(`Batteries.Lean.Except`: the decidable equality of `Except` by which the test vectors of Props/C02
and Props/C12 are evaluated.)
-/
import Paroxy.Spec.Hints
import Batteries.Lean.Except
namespace Paroxy.Hints

variable {O : CharOracle}

theorem forall_head?_map {α β : Type} {f : α → β} {l : List α} {P : β → Prop} :
    (∀ b, (l.map f).head? = some b → P b) ↔ ∀ a, l.head? = some a → P (f a) := by
  simp only [List.head?_map, Option.map_eq_some_iff]
  exact ⟨fun h a ha => h _ ⟨a, ha, rfl⟩, fun h b ⟨a, ha, e⟩ => e ▸ h a ha⟩

theorem forall_getLast?_map {α β : Type} {f : α → β} {l : List α} {P : β → Prop} :
    (∀ b, (l.map f).getLast? = some b → P b) ↔ ∀ a, l.getLast? = some a → P (f a) := by
  simp only [List.getLast?_map, Option.map_eq_some_iff]
  exact ⟨fun h a ha => h _ ⟨a, ha, rfl⟩, fun h b ⟨a, ha, e⟩ => e ▸ h a ha⟩

theorem dropWhile_eq_self {α : Type} {p : α → Bool} {l : List α} (h : ∀ x, l.head? = some x → p x = false) :
    l.dropWhile p = l := by
  cases l with
  | nil => rfl
  | cons c t => exact List.dropWhile_cons_of_neg (by simp [h c rfl])

theorem suffix_getLast? {a s : Str} (h : a <:+ s) (ha : a ≠ []) : a.getLast? = s.getLast? := by
  obtain ⟨t, rfl⟩ := h
  cases a with
  | nil => exact absurd rfl ha
  | cons c r => rw [List.getLast?_append, List.getLast?_cons]; rfl

theorem mem_takeWhile_imp {α : Type} {p : α → Bool} {l : List α} {x : α} (h : x ∈ l.takeWhile p) : p x = true :=
  List.all_eq_true.mp (List.all_takeWhile (p := p) (l := l)) x h

/-- `l` without the elements that satisfy `p` at its two ends; `stripPy`, `trimBlank`, `core` and
`coreLines` are of this form. -/
def trimBoth {α : Type} (p : α → Bool) (l : List α) : List α := ((l.dropWhile p).reverse.dropWhile p).reverse

theorem trimBoth_decomp {α : Type} (p : α → Bool) (l : List α) :
    ∃ pre suf, l = pre ++ (trimBoth p l ++ suf) ∧ (∀ x ∈ pre, p x = true) ∧ ∀ x ∈ suf, p x = true := by
  refine ⟨l.takeWhile p, ((l.dropWhile p).reverse.takeWhile p).reverse, ?_,
    fun x hx => mem_takeWhile_imp hx, fun x hx => mem_takeWhile_imp (List.mem_reverse.mp hx)⟩
  rw [trimBoth, ← List.reverse_append, List.takeWhile_append_dropWhile, List.reverse_reverse,
    List.takeWhile_append_dropWhile]

theorem trimBoth_sublist {α : Type} (p : α → Bool) (l : List α) : (trimBoth p l).Sublist l :=
  (List.reverse_sublist.mp (by
    rw [trimBoth, List.reverse_reverse]; exact List.dropWhile_sublist p)).trans (List.dropWhile_sublist p)

theorem trimBoth_getLast {α : Type} (p : α → Bool) (l : List α) (x : α) (h : (trimBoth p l).getLast? = some x) :
    p x = false := by
  rw [trimBoth, List.getLast?_reverse] at h
  have := List.head?_dropWhile_not p (l.dropWhile p).reverse
  rwa [h] at this

theorem trimBoth_head {α : Type} (p : α → Bool) (l : List α) (x : α) (h : (trimBoth p l).head? = some x) :
    p x = false := by
  obtain ⟨t, ht⟩ : trimBoth p l <+: l.dropWhile p :=
    List.reverse_suffix.mp (by rw [trimBoth, List.reverse_reverse]; exact List.dropWhile_suffix p)
  have := List.head?_dropWhile_not p l
  rwa [← ht, List.head?_append, h] at this

theorem trimBoth_id {α : Type} (p : α → Bool) (l : List α) (hf : ∀ x, l.head? = some x → p x = false)
    (hl : ∀ x, l.getLast? = some x → p x = false) : trimBoth p l = l := by
  rw [trimBoth, dropWhile_eq_self hf, dropWhile_eq_self (List.head?_reverse ▸ hl), List.reverse_reverse]

theorem trimBoth_idem {α : Type} (p : α → Bool) (l : List α) : trimBoth p (trimBoth p l) = trimBoth p l :=
  trimBoth_id p _ (trimBoth_head p l) (trimBoth_getLast p l)

theorem map_dropWhile_congr {α β : Type} (f : α → β) (p : β → Bool) (q : α → Bool) (l : List α)
    (h : ∀ x ∈ l, p (f x) = q x) : (l.map f).dropWhile p = (l.dropWhile q).map f := by
  induction l with
  | nil => rfl
  | cons x t ih =>
    have hx := h x (by simp)
    simp only [List.map_cons, List.dropWhile_cons, hx]
    split
    · exact ih (fun y hy => h y (List.mem_cons_of_mem _ hy))
    · rfl

theorem trimBoth_map {α β : Type} (f : α → β) (p : β → Bool) (q : α → Bool) (l : List α)
    (h : ∀ x ∈ l, p (f x) = q x) : trimBoth p (l.map f) = (trimBoth q l).map f := by
  unfold trimBoth
  rw [map_dropWhile_congr f p q l h, ← List.map_reverse,
    map_dropWhile_congr f p q _ (fun x hx => h x ((List.dropWhile_sublist _).subset (List.mem_reverse.mp hx))),
    List.map_reverse]

theorem exists_of_getLast {α : Type} {p : α → Bool} {l : List α} (hne : l ≠ [])
    (h : ∀ x, l.getLast? = some x → p x = false) : ∃ c ∈ l, p c = false :=
  ⟨l.getLast hne, List.getLast_mem hne, h _ (List.getLast?_eq_some_getLast hne)⟩

theorem dropWhile_ne_nil_of_exists {p : Char → Bool} (a : Str) (h : ∃ c ∈ a, p c = false) :
    a.dropWhile p ≠ [] := by
  induction a with
  | nil => simp at h
  | cons c t ih =>
    by_cases hc : p c = true
    · rw [List.dropWhile_cons_of_pos hc]; exact ih (by simpa [hc] using h)
    · rw [List.dropWhile_cons_of_neg hc]; simp

theorem dropWhile_append_of_exists {p : Char → Bool} (a Y : Str) (h : ∃ c ∈ a, p c = false) :
    (a ++ Y).dropWhile p = a.dropWhile p ++ Y := by
  rw [List.dropWhile_append, if_neg (by simpa using dropWhile_ne_nil_of_exists a h)]

theorem takeWhile_append_of_exists {p : Char → Bool} (a Y : Str) (h : ∃ c ∈ a, p c = false) :
    (a ++ Y).takeWhile p = a.takeWhile p := by
  induction a with
  | nil => simp at h
  | cons c t ih =>
    by_cases hc : p c = true
    · rw [List.cons_append, List.takeWhile_cons_of_pos hc, List.takeWhile_cons_of_pos hc,
        ih (by simpa [hc] using h)]
    · rw [List.cons_append, List.takeWhile_cons_of_neg hc, List.takeWhile_cons_of_neg hc]

theorem dropWhile_spaces_gen (p : Char → Bool) (hp : p ' ' = true) (n : Nat) (R : Str)
    (hR : ∀ c, R.head? = some c → p c = false) :
    (List.replicate n ' ' ++ R).dropWhile p = R := by
  rw [List.dropWhile_append_of_pos (by intro c hc; rw [(List.mem_replicate.mp hc).2]; exact hp), dropWhile_eq_self hR]

theorem splitNL'_append (l R : Str) (h : '\n' ∉ l) :
    splitNL' (l ++ R) = (l ++ (splitNL' R).1, (splitNL' R).2) := by
  induction l with
  | nil => rfl
  | cons c t ih =>
    have hc : c ≠ '\n' := fun e => h (by simp [e])
    simp [splitNL', hc, ih (fun e => h (List.mem_cons_of_mem _ e))]

theorem joinNL_cons_cons (l l2 : Str) (ls : List Str) : joinNL (l :: l2 :: ls) = l ++ '\n' :: joinNL (l2 :: ls) := rfl

theorem joinNL_cons_eq (l : Str) (rest : List Str) : ∃ X, joinNL (l :: rest) = l ++ X := by
  cases rest with
  | nil => exact ⟨[], by simp [joinNL]⟩
  | cons y ys => exact ⟨_, rfl⟩

theorem splitNL_joinNL (ls : List Str) (hne : ls ≠ []) (h : ∀ l ∈ ls, '\n' ∉ l) :
    splitNL (joinNL ls) = ls := by
  induction ls with
  | nil => exact absurd rfl hne
  | cons l t ih =>
    cases t with
    | nil =>
      have := splitNL'_append l [] (h l (by simp))
      simp only [splitNL', List.append_nil] at this
      simp [joinNL, splitNL, this]
    | cons l2 t2 =>
      have := ih (by simp) (fun x hx => h x (List.mem_cons_of_mem _ hx))
      simp only [splitNL] at this
      simp only [joinNL, splitNL, splitNL'_append l _ (h l (by simp)), splitNL', if_true, List.append_nil]
      rw [this]

theorem noNL_iff (l : Str) : noNL l = true ↔ '\n' ∉ l := by simp [noNL]

theorem joinNL_head? (l : Str) (ls : List Str) (h : l ≠ []) : (joinNL (l :: ls)).head? = l.head? := by
  obtain ⟨Z, hZ⟩ := joinNL_cons_eq l ls
  obtain ⟨c, r, rfl⟩ := List.exists_cons_of_ne_nil h
  rw [hZ]; rfl

theorem joinNL_getLast? (ls : List Str) (last : Str) (hl : ls.getLast? = some last) (hne : last ≠ []) :
    (joinNL ls).getLast? = last.getLast? := by
  induction ls with
  | nil => simp at hl
  | cons l t ih =>
    cases t with
    | nil => simp at hl; subst hl; rfl
    | cons l2 t2 =>
      rw [joinNL_cons_cons, List.getLast?_append, List.getLast?_cons, ih (by simpa using hl),
        List.getLast?_eq_some_getLast hne]
      rfl

theorem hasInfix_iff (p s : Str) : hasInfix p s = true ↔ p <:+: s := by
  induction s with
  | nil => simp [hasInfix, List.isPrefixOf_iff_prefix]
  | cons c t ih => simp only [hasInfix, Bool.or_eq_true, List.isPrefixOf_iff_prefix, ih, List.infix_cons_iff]

theorem noM13_iff (a : Str) : noM13 a = true ↔ ¬ m13 <:+: a := by
  simp only [noM13, Bool.not_eq_true', ← Bool.not_eq_true, hasInfix_iff]

theorem noM13_of_infix {a s : Str} (h : noM13 s = true) (ha : a <:+: s) : noM13 a = true :=
  (noM13_iff a).mpr fun h1 => (noM13_iff s).mp h (h1.trans ha)

theorem hasInfix_false_of_noM13 {p a : Str} (hp : m13 <:+: p) (hm : noM13 a = true) : hasInfix p a = false := by
  rw [← Bool.not_eq_true, hasInfix_iff]
  exact fun h => (noM13_iff a).mp hm (hp.trans h)

theorem hasInfix_sp_m13_false {a : Str} (hm : noM13 a = true) : hasInfix (' ' :: m13) a = false :=
  hasInfix_false_of_noM13 (List.suffix_cons ' ' m13).isInfix hm

theorem not_isSpacePy_of (c : Char) (h : (isSpacePy O) c = false) : (isSpaceRe O) c = false := by
  simp only [isSpacePy, Bool.or_eq_false_iff] at h; exact h.1

/-- What may follow a code line in a decorated text: nothing, or the hint comment after its spaces
(none when it is glued to the code). -/
def SafeTail (Y : Str) : Prop := Y = [] ∨ ∃ k Z, Y = List.replicate k ' ' ++ '#' :: Z

theorem safeTail_spaces_hash (k : Nat) (Z : Str) : SafeTail (List.replicate k ' ' ++ '#' :: Z) := Or.inr ⟨k, Z, rfl⟩

theorem prefix_before_sep {p a b : Str} {sep : Char} (hs : sep ∉ p) (h : p <+: a ++ sep :: b) : p <+: a := by
  by_cases hlen : p.length ≤ a.length
  · exact List.prefix_of_prefix_length_le h (List.prefix_append a _) hlen
  · exfalso
    have h2 : (a ++ [sep]) <+: a ++ sep :: b := ⟨b, by simp⟩
    have h3 : (a ++ [sep]) <+: p := List.prefix_of_prefix_length_le h2 h (by simp; omega)
    exact hs (h3.subset (by simp))

theorem m13_prefix_append (a Y : Str) (ha : a ≠ []) (hm : ¬ m13 <+: a) (hY : SafeTail Y) : ¬ m13 <+: a ++ Y := by
  rintro ⟨t, ht⟩
  rcases List.append_eq_append_iff.mp ht with ⟨a', ha', -⟩ | ⟨s, hs, hs2⟩
  · exact hm ⟨a', ha'.symm⟩
  · -- what is left of the marker after `a` begins `Y`; it has no `#` and ends with `:`
    obtain ⟨c, a', rfl⟩ := List.exists_cons_of_ne_nil ha
    have hs' : s <:+ m13.drop 1 := ⟨a', (List.cons.inj hs).2.symm⟩
    by_cases hne : s = []
    · rw [hne, List.append_nil] at hs; exact hm (hs ▸ List.prefix_refl _)
    rcases hY with rfl | ⟨k, Z, rfl⟩
    · exact hne (List.append_eq_nil_iff.mp hs2.symm).1
    · have hsp : s <+: List.replicate k ' ' :=
        prefix_before_sep (fun h => absurd (hs'.subset h) (by decide)) ⟨t, hs2.symm⟩
      have hl := suffix_getLast? hs' hne
      have := (List.mem_replicate.mp (hsp.subset (List.mem_of_getLast? hl))).2
      revert this; decide

theorem partitionAt_none {m a : Str} (h : hasInfix m a = false) : partitionAt m a = none := by
  induction a with
  | nil => simp [partitionAt, show m.isPrefixOf [] = false from h]
  | cons c t ih =>
    simp only [hasInfix, Bool.or_eq_false_iff] at h
    simp [partitionAt, h.1, ih h.2]

theorem partitionAt_prefix (m rest : Str) : partitionAt m (m ++ rest) = some ([], rest) := by
  cases h : m ++ rest with
  | nil => simp_all [partitionAt]
  | cons c t => simp [partitionAt, ← h]

theorem partitionAt_append {m a b : Str} (h : ∀ s, s ≠ [] → s <:+ a → m.isPrefixOf (s ++ b) = false) :
    partitionAt m (a ++ b) = (partitionAt m b).map fun p => (a ++ p.1, p.2) := by
  induction a with
  | nil => simp
  | cons c t ih =>
    have h0 := h (c :: t) (by simp) (List.suffix_refl _)
    rw [List.cons_append] at h0 ⊢
    simp [partitionAt, h0, ih (fun s hs hst => h s hs (hst.trans (List.suffix_cons c t))), Function.comp_def]

/-- `line.partition("# paroxython: ")` on a hinted code line. -/
theorem partitionAt_code (code : Str) (k : Nat) (rest : Str) (hm : noM13 code = true) :
    partitionAt m14 (code ++ (List.replicate k ' ' ++ (m14 ++ rest))) =
      some (code ++ List.replicate k ' ', rest) := by
  rw [partitionAt_append, partitionAt_append, partitionAt_prefix]
  · simp
  · intro s hs hsuf
    obtain ⟨x, r, rfl⟩ := List.exists_cons_of_ne_nil hs
    have : x = ' ' := (List.mem_replicate.mp (hsuf.subset (by simp))).2
    subst this; rfl
  · intro s hs hsuf
    rw [← Bool.not_eq_true, List.isPrefixOf_iff_prefix]
    exact fun hp => m13_prefix_append s _ hs (fun h => (noM13_iff code).mp hm (h.isInfix.trans hsuf.isInfix))
      (safeTail_spaces_hash k _) ((List.prefix_append m13 [' ']).trans hp)

theorem splitWs'_space (c : Char) (R : Str) (hc : (isSpacePy O) c = true) :
    (splitWs' O) (c :: R) = ([], (splitWs O) R) := by
  simp [splitWs', splitWs, hc]

theorem splitWs_space (c : Char) (R : Str) (hc : (isSpacePy O) c = true) : (splitWs O) (c :: R) = (splitWs O) R := by
  simp [splitWs, splitWs'_space c R hc]

theorem splitWs_spaces (n : Nat) (R : Str) : (splitWs O) (List.replicate n ' ' ++ R) = (splitWs O) R := by
  induction n with
  | zero => simp
  | succ n ih => rw [List.replicate_succ, List.cons_append, splitWs_space _ _ rfl, ih]

theorem splitWs'_word (tok R : Str) (h : ∀ c ∈ tok, (isSpacePy O) c = false) :
    (splitWs' O) (tok ++ R) = (tok ++ ((splitWs' O) R).1, ((splitWs' O) R).2) := by
  induction tok with
  | nil => simp
  | cons c t ih =>
    have hc := h c (by simp)
    simp [splitWs', hc, ih (fun x hx => h x (List.mem_cons_of_mem _ hx))]

theorem splitWs_word (tok R : Str) (h : ∀ c ∈ tok, (isSpacePy O) c = false) (hne : tok ≠ [])
    (hR : ((splitWs' O) R).1 = []) : (splitWs O) (tok ++ R) = tok :: (splitWs O) R := by
  simp [splitWs, splitWs'_word tok R h, hR, hne]

theorem stripPy_id (s : Str) (h1 : ∀ c, s.head? = some c → (isSpacePy O) c = false)
    (h2 : ∀ c, s.getLast? = some c → (isSpacePy O) c = false) : (stripPy O) s = s :=
  trimBoth_id _ s h1 h2

theorem splitAfter_false {r : Str} (h : (splitAfter r).2 = false) : (splitAfter r).1 = r := by
  unfold splitAfter at h ⊢
  split
  · rename_i heq; simp [heq] at h
  · rename_i heq
    simp only [heq] at h
    split
    · rename_i hc; simp [hc] at h
    · rfl
  · rfl

theorem splitAfter_ellipsis (L : Str) (u : Bool) : splitAfter (L ++ ellipsis u) = (L, true) := by
  cases u <;> simp [splitAfter, ellipsis, dots3, ell]

structure Clean (O : CharOracle) (L : Str) : Prop where
  ne : L ≠ []
  word : ∀ c, L.head? = some c → (isWord O) c = true
  nosp : ∀ c ∈ L, (isSpacePy O) c = false
  noell : splitAfter L = (L, false)

theorem Clean.noNL {L : Str} (h : (Clean O) L) : '\n' ∉ L := fun hm => by
  have := h.nosp _ hm
  rw [show (isSpacePy O) '\n' = true from rfl] at this; cases this

theorem clean_of (L : Str) (h : (cleanLabel O) L = true) : (Clean O) L := by
  cases L with
  | nil => simp [cleanLabel] at h
  | cons c l =>
    simp only [cleanLabel, Bool.and_eq_true, Bool.not_eq_true', List.all_eq_true] at h
    refine ⟨by simp, ?_, ?_, ?_⟩
    · intro c' hc'; simp at hc'; subst hc'; exact h.1.1
    · intro x hx; simpa using h.1.2 x hx
    · exact Prod.ext (splitAfter_false h.2) h.2

theorem punct_class : ∀ c ∈ ['+', '-', '.', ell], (isWord O) c = false ∧ (isSpacePy O) c = false := by
  intro c hc
  simp only [List.mem_cons, List.not_mem_nil, or_false] at hc
  rcases hc with rfl | rfl | rfl | rfl <;> exact ⟨rfl, rfl⟩

theorem matchLabel_word (c : Char) (r : Str) (hc : (isWord O) c = true) :
    (matchLabel O) (c :: r) = some (.none, (splitAfter (c :: r)).1, (splitAfter (c :: r)).2) := by
  have hp : c ∉ ['+', '-', '.', ell] := fun h => by rw [(punct_class c h).1] at hc; cases hc
  simp only [List.mem_cons, List.not_mem_nil, or_false, not_or] at hp
  simp [matchLabel, hp, hc]

theorem matchLabel_minus (c : Char) (r : Str) (hc : (isWord O) c = true) :
    (matchLabel O) ('-' :: c :: r) = some (.minus, (splitAfter (c :: r)).1, (splitAfter (c :: r)).2) := by
  simp [matchLabel, hc]

theorem matchLabel_plus (c : Char) (r : Str) (hc : (isWord O) c = true) :
    (matchLabel O) ('+' :: c :: r) = some (.plus, (splitAfter (c :: r)).1, (splitAfter (c :: r)).2) := by
  simp [matchLabel, hc]

theorem matchLabel_dots3 (c : Char) (r : Str) (hc : (isWord O) c = true) :
    (matchLabel O) ('.' :: '.' :: '.' :: c :: r) = some (.dots, (splitAfter (c :: r)).1, (splitAfter (c :: r)).2) := by
  simp [matchLabel, hc]

theorem matchLabel_ell (c : Char) (r : Str) (hc : (isWord O) c = true) :
    (matchLabel O) (ell :: c :: r) = some (.dots, (splitAfter (c :: r)).1, (splitAfter (c :: r)).2) := by
  simp [matchLabel, hc, ell]

/-- A rendered hint is its label between a sign and an ellipsis, each possibly empty. -/
theorem renderHint_shape (h : Hint) : ∃ pre post, renderHint h = pre ++ (h.label ++ post) ∧
    (∀ c ∈ pre, c ∈ ['+', '-', '.', ell]) ∧ ∀ c ∈ post, c ∈ ['+', '-', '.', ell] := by
  have hs : ∀ b, ∀ c ∈ sign b, c ∈ ['+', '-', '.', ell] := fun b => by cases b <;> decide +kernel
  have hm : ∀ c ∈ ['-'], c ∈ ['+', '-', '.', ell] := by decide +kernel
  have he : ∀ b, ∀ c ∈ ellipsis b, c ∈ ['+', '-', '.', ell] := fun b => by cases b <;> decide +kernel
  have h0 : ∀ c ∈ ([] : Str), c ∈ ['+', '-', '.', ell] := fun _ h => nomatch h
  obtain ⟨mark, L, sty⟩ := h
  cases mark with
  | one s =>
    cases s
    · exact ⟨sign sty.plus, [], by rw [List.append_nil]; rfl, hs _, h0⟩
    · exact ⟨['-'], [], by rw [List.append_nil]; rfl, hm, h0⟩
  | opn s =>
    cases s
    · exact ⟨sign sty.plus, ellipsis sty.uni, rfl, hs _, he _⟩
    · exact ⟨['-'], ellipsis sty.uni, rfl, hm, he _⟩
  | cls => exact ⟨ellipsis sty.uni, [], by rw [List.append_nil]; rfl, he _, h0⟩

theorem mem_renderHint {h : Hint} {c : Char} (hc : c ∈ renderHint h) :
    c ∈ h.label ∨ c ∈ ['+', '-', '.', ell] := by
  obtain ⟨pre, post, e, hpre, hpost⟩ := renderHint_shape h
  rw [e] at hc
  rcases List.mem_append.mp hc with hc | hc
  · exact .inr (hpre c hc)
  · exact (List.mem_append.mp hc).imp_right (hpost c)

theorem renderHint_nosp (h : Hint) (hc : (Clean O) h.label) : ∀ c ∈ renderHint h, (isSpacePy O) c = false :=
  fun c hm => (mem_renderHint hm).elim (hc.nosp c) fun hp => (punct_class c hp).2

theorem renderHint_ne (h : Hint) (hc : (Clean O) h.label) : renderHint h ≠ [] := by
  obtain ⟨pre, post, e, -⟩ := renderHint_shape h
  simp [e, hc.ne]

theorem renderHints_cons (h : Hint) (t : List Hint) :
    renderHints (h :: t) = List.replicate (h.style.gap + 1) ' ' ++ (renderHint h ++ renderHints t) := by
  simp [renderHints]

theorem renderHints_head (hs : List Hint) (hne : hs ≠ []) : ∃ R, renderHints hs = ' ' :: R := by
  cases hs with
  | nil => exact absurd rfl hne
  | cons h t => exact ⟨_, by rw [renderHints_cons, List.replicate_succ]; rfl⟩

theorem renderHints_fst (hs : List Hint) : ((splitWs' O) (renderHints hs)).1 = [] := by
  cases hs with
  | nil => rfl
  | cons h t =>
    obtain ⟨R, hR⟩ := renderHints_head (h :: t) (by simp)
    rw [hR, splitWs'_space _ _ rfl]

theorem not_mem_renderHints {x : Char} (hs : List Hint) (hsp : x ≠ ' ') (hp : x ∉ ['+', '-', '.', ell])
    (hl : ∀ h ∈ hs, x ∉ h.label) : x ∉ renderHints hs := by
  simp only [renderHints, List.mem_flatMap, List.mem_append, List.mem_replicate]
  rintro ⟨h, hh, ⟨-, e⟩ | hm⟩
  · exact hsp e
  · exact (mem_renderHint hm).elim (hl h hh) hp

theorem renderHints_noNL (hs : List Hint) (hc : ∀ h ∈ hs, (Clean O) h.label) : '\n' ∉ renderHints hs :=
  not_mem_renderHints hs (by decide) (by decide) fun h hh => (hc h hh).noNL

theorem splitWs_renderHints (hs : List Hint) (hc : ∀ h ∈ hs, (Clean O) h.label) :
    (splitWs O) (renderHints hs) = hs.map renderHint := by
  induction hs with
  | nil => rfl
  | cons h t ih =>
    rw [renderHints_cons, splitWs_spaces,
      splitWs_word _ _ (renderHint_nosp h (hc h (by simp))) (renderHint_ne h (hc h (by simp))) (renderHints_fst t),
      ih (fun x hx => hc x (List.mem_cons_of_mem _ hx))]
    rfl

/-- The text that follows the code on a hinted line. -/
def hintPart (c : CodeLine) : Str := List.replicate c.pad ' ' ++ (m13 ++ renderHints c.hints)

theorem renderCode_hinted (c : CodeLine) (h : c.hints ≠ []) : renderCode c = c.code ++ hintPart c := by
  simp [renderCode, h, hintPart]

theorem renderCode_plain (c : CodeLine) (h : c.hints = []) : renderCode c = c.code := by
  simp [renderCode, h]

theorem hintPart_eq (c : CodeLine) (h : c.hints ≠ []) :
    ∃ R, renderHints c.hints = ' ' :: R ∧ hintPart c = List.replicate c.pad ' ' ++ (m14 ++ R) := by
  obtain ⟨R, hR⟩ := renderHints_head c.hints h
  exact ⟨R, hR, by simp [hintPart, hR, m14]⟩

theorem hintPart_safe (c : CodeLine) : SafeTail (hintPart c) :=
  safeTail_spaces_hash c.pad _

structure OkCode (O : CharOracle) (c : CodeLine) : Prop where
  nonl : '\n' ∉ c.code
  nom : noM13 c.code = true
  notrail : ∀ x, c.code.getLast? = some x → (isSpacePy O) x = false
  hinted : c.hints ≠ [] → c.code ≠ []
  clean : ∀ h ∈ c.hints, (Clean O) h.label

theorem okCode_of (c : CodeLine) (h : (okCode O) c = true) : (OkCode O) c := by
  simp only [okCode, Bool.and_eq_true, Bool.or_eq_true, List.all_eq_true, noNL_iff] at h
  obtain ⟨⟨⟨⟨h1, h2⟩, h3⟩, h4⟩, h5⟩ := h
  refine ⟨h1, h2, ?_, ?_, fun x hx => clean_of _ (h5 x hx)⟩
  · intro x hx; simpa [noTrailWs, hx] using h3
  · intro hne
    rcases h4 with h4 | h4
    · simp at h4; exact absurd h4 hne
    · simpa using h4

theorem hintTokens_renderCode (c : CodeLine) (ok : (OkCode O) c) :
    (hintTokens O) (renderCode c) = c.hints.map renderHint := by
  by_cases h : c.hints = []
  · have hno : hasInfix m14 c.code = false :=
      hasInfix_false_of_noM13 (List.prefix_append m13 [' ']).isInfix ok.nom
    simp [renderCode_plain c h, hintTokens, partitionAt_none hno, h]
  · obtain ⟨R, hR, hP⟩ := hintPart_eq c h
    rw [renderCode_hinted c h, hP, hintTokens, partitionAt_code _ _ _ ok.nom]
    simp only
    rw [← splitWs_space ' ' R rfl, ← hR, splitWs_renderHints _ ok.clean]

theorem hintPart_noNL (c : CodeLine) (ok : (OkCode O) c) : '\n' ∉ hintPart c := by
  simp only [hintPart, List.mem_append, not_or]
  exact ⟨by simp [List.mem_replicate], by decide, renderHints_noNL _ ok.clean⟩

theorem renderCode_noNL (c : CodeLine) (ok : (OkCode O) c) : '\n' ∉ renderCode c := by
  by_cases h : c.hints = []
  · rw [renderCode_plain c h]; exact ok.nonl
  · rw [renderCode_hinted c h, List.mem_append, not_or]
    exact ⟨ok.nonl, hintPart_noNL c ok⟩

theorem hintAhead_code (a Y : Str) (ha : a ≠ []) (hm : noM13 a = true)
    (ht : ∀ x, a.getLast? = some x → (isSpacePy O) x = false) (hY : SafeTail Y) :
    (hintAhead O) (a ++ Y) = false := by
  have hex := exists_of_getLast ha ht
  unfold hintAhead
  rw [dropWhile_append_of_exists a Y hex, ← Bool.not_eq_true, List.isPrefixOf_iff_prefix]
  exact m13_prefix_append _ Y (dropWhile_ne_nil_of_exists a hex)
    (fun h => (noM13_iff a).mp hm (h.isInfix.trans (List.dropWhile_suffix _).isInfix)) hY

theorem hintAhead_renderCode (c : CodeLine) (ok : (OkCode O) c) : (hintAhead O) (renderCode c) = false := by
  by_cases h : c.hints = []
  · rw [renderCode_plain c h]
    by_cases hcode : c.code = []
    · rw [hcode]; rfl
    · simpa using hintAhead_code c.code [] hcode ok.nom ok.notrail (Or.inl rfl)
  · rw [renderCode_hinted c h]
    exact hintAhead_code c.code _ (ok.hinted h) ok.nom ok.notrail (hintPart_safe c)

theorem hintAhead_local (s R : Str) (hR : (hintAhead O) R = false) : (hintAhead O) (s ++ '\n' :: R) = (hintAhead O) s := by
  by_cases hex : ∃ c ∈ s, (isSpacePy O) c = false
  · unfold hintAhead
    rw [dropWhile_append_of_exists s _ hex, Bool.eq_iff_iff, List.isPrefixOf_iff_prefix, List.isPrefixOf_iff_prefix]
    exact ⟨prefix_before_sep (by decide), fun hp => hp.trans (List.prefix_append _ _)⟩
  · have hall : ∀ c ∈ s, (isSpacePy O) c = true := by simpa using hex
    unfold hintAhead at hR ⊢
    rw [List.dropWhile_append_of_pos hall, List.dropWhile_cons_of_pos rfl, hR]
    have : s.dropWhile (isSpacePy O) = [] := by
      have := List.dropWhile_append_of_pos (l₂ := []) hall
      simpa using this
    rw [this]; rfl

theorem dropWhile_spaces_m14 (n : Nat) (R : Str) :
    (List.replicate n ' ' ++ (m14 ++ R)).dropWhile (isSpacePy O) = m14 ++ R :=
  dropWhile_spaces_gen _ rfl n _ (by intro c hc; cases hc; rfl)

theorem isolatedRest_isolated (n : Nat) (L : Str) :
    (isolatedRest O) (List.replicate n ' ' ++ (m14 ++ L)) = some L := by
  simp only [isolatedRest, dropWhile_spaces_m14]
  rfl

theorem isolatedRest_renderCode (c : CodeLine) (ok : (OkCode O) c) : (isolatedRest O) (renderCode c) = none := by
  have key := hintAhead_renderCode c ok
  unfold hintAhead at key
  simp [isolatedRest, key]

theorem subHints_code (a Y : Str) (hm : noM13 a = true)
    (ht : ∀ x, a.getLast? = some x → (isSpacePy O) x = false) (hY : SafeTail Y) :
    (subHints O) false (a ++ Y) = a ++ (subHints O) false Y := by
  induction a with
  | nil => rfl
  | cons c t ih =>
    have h0 := hintAhead_code (c :: t) Y (by simp) hm ht hY
    have ht' : ∀ x, t.getLast? = some x → (isSpacePy O) x = false := by
      intro x hx
      apply ht x
      cases t with
      | nil => simp at hx
      | cons d r => simpa using hx
    simp only [List.cons_append] at h0 ⊢
    simp [subHints, h0, ih (noM13_of_infix hm (List.suffix_cons c t).isInfix) ht']

theorem subHints_skip (X R : Str) (h : '\n' ∉ X) : (subHints O) true (X ++ R) = (subHints O) true R := by
  induction X with
  | nil => rfl
  | cons c t ih =>
    have hc : c ≠ '\n' := fun e => h (by simp [e])
    simp [subHints, hc, ih (fun e => h (by simp [e]))]

theorem subHints_true_nil : (subHints O) true [] = [] := rfl

theorem subHints_true_noNL (t : Str) (h : '\n' ∉ t) : (subHints O) true t = [] := by
  have := subHints_skip (O := O) t [] h
  simpa [subHints] using this

theorem subHints_prefix (l : Str) (h : '\n' ∉ l) : (subHints O) false l <+: l := by
  induction l with
  | nil => simp [subHints]
  | cons c t ih =>
    have ht : '\n' ∉ t := fun e => h (List.mem_cons_of_mem _ e)
    simp only [subHints, Bool.false_and, Bool.false_eq_true, if_false]
    split
    · rw [subHints_true_noNL t ht]; exact List.nil_prefix
    · exact (List.cons_prefix_cons).mpr ⟨rfl, ih ht⟩

theorem subHints_hintPart (c : CodeLine) (ok : (OkCode O) c) (h : c.hints ≠ []) :
    (subHints O) false (hintPart c) = [] := by
  have ha : (hintAhead O) (hintPart c) = true := by
    obtain ⟨R, _, hP⟩ := hintPart_eq c h
    unfold hintAhead
    rw [hP, dropWhile_spaces_m14]
    rfl
  have hn := hintPart_noNL c ok
  obtain ⟨x, t, hx⟩ := List.exists_cons_of_ne_nil (show hintPart c ≠ [] by simp [hintPart, m13])
  rw [hx] at ha hn ⊢
  simp only [subHints, Bool.false_and, ha, if_true, Bool.false_eq_true, if_false]
  exact subHints_true_noNL t (fun e => hn (List.mem_cons_of_mem _ e))

theorem subHints_renderCode (c : CodeLine) (ok : (OkCode O) c) : (subHints O) false (renderCode c) = c.code := by
  by_cases h : c.hints = []
  · simpa [renderCode_plain c h, subHints] using subHints_code c.code [] ok.nom ok.notrail (Or.inl rfl)
  · rw [renderCode_hinted c h, subHints_code _ _ ok.nom ok.notrail (hintPart_safe c), subHints_hintPart c ok h,
      List.append_nil]

theorem subHints_line (l : Str) (hl : '\n' ∉ l) (R : Str) (hR : (hintAhead O) R = false) :
    ∀ b, (subHints O) b (l ++ '\n' :: R) = (subHints O) b l ++ '\n' :: (subHints O) false R := by
  induction l with
  | nil =>
    intro b
    have : (hintAhead O) ('\n' :: R) = false := hintAhead_local [] R hR
    cases b <;> simp [subHints, this]
  | cons c t ih =>
    intro b
    have hc : c ≠ '\n' := fun e => hl (by simp [e])
    have ht : '\n' ∉ t := fun e => hl (by simp [e])
    cases b with
    | true => simp [subHints, hc, ih ht true]
    | false =>
      have hloc := hintAhead_local (c :: t) R hR
      simp only [List.cons_append] at hloc ⊢
      simp only [subHints, Bool.false_and, Bool.false_eq_true, if_false, hloc]
      split
      · exact ih ht true
      · simp [ih ht false]

theorem subHints_joinNL (ls : List Str) (hnl : ∀ l ∈ ls, '\n' ∉ l) (h : ∀ l ∈ ls, (hintAhead O) l = false) :
    (hintAhead O) (joinNL ls) = false ∧
      (subHints O) false (joinNL ls) = joinNL (ls.map ((subHints O) false)) := by
  induction ls with
  | nil => exact ⟨rfl, rfl⟩
  | cons l t ih =>
    cases t with
    | nil => exact ⟨h l (by simp), rfl⟩
    | cons l2 t2 =>
      obtain ⟨ia, ib⟩ := ih (fun x hx => hnl x (List.mem_cons_of_mem _ hx)) (fun x hx => h x (List.mem_cons_of_mem _ hx))
      constructor
      · rw [joinNL_cons_cons, hintAhead_local _ _ ia]; exact h l (by simp)
      · rw [joinNL_cons_cons, subHints_line l (hnl l (by simp)) _ ia false, ib]; rfl

def plainLines (cs : List CodeLine) : List Str := cs.map (·.code)

theorem subHints_lines (cs : List CodeLine) (ok : ∀ c ∈ cs, (OkCode O) c) :
    (subHints O) false (joinNL (cs.map renderCode)) = joinNL (plainLines cs) := by
  rw [(subHints_joinNL (cs.map renderCode)
    (List.forall_mem_map.mpr fun c hc => renderCode_noNL c (ok c hc))
    (List.forall_mem_map.mpr fun c hc => hintAhead_renderCode c (ok c hc))).2, List.map_map, plainLines]
  exact congrArg joinNL (List.map_congr_left fun c hc => subHints_renderCode c (ok c hc))

end Paroxy.Hints
