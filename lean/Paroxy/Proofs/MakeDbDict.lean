/-
Insertion-ordered dictionaries (`get?`; `set`, `push`, `pushNew` as instances of the
assignment of `Proofs/Assoc.lean`; `sortKeys`), the inverted indexes `collect` / `collectNew`, and `exportations`.
-/
import Paroxy.Proofs.MakeDbSort
import Paroxy.Proofs.Assoc
namespace Paroxy.DB
open Std

theorem get?_cons {β : Type} (k' : Name) (v : β) (t : List (Name × β)) (k : Name) :
    get? ((k', v) :: t) k = if k' = k then some v else get? t k := rfl

theorem get?_isLookup {β : Type} : Assoc.IsLookup (get? (β := β)) none some := ⟨fun _ => rfl, get?_cons⟩

theorem get?_eq_none {β : Type} {d : List (Name × β)} {k : Name} :
    get? d k = none ↔ k ∉ keys d := by
  rcases get?_isLookup.cases d k with ⟨hk, h⟩ | ⟨v, hv, h⟩
  · exact iff_of_true h hk
  · exact iff_of_false (h ▸ nofun) fun hk => hk (List.mem_map_of_mem (f := (·.1)) hv)

theorem get?_isSome {β : Type} {d : List (Name × β)} {k : Name} :
    (∃ v, get? d k = some v) ↔ k ∈ keys d := by
  rw [← Option.ne_none_iff_exists', ne_eq, get?_eq_none, Classical.not_not]

theorem get?_mem {β : Type} {d : List (Name × β)} {k : Name} {v : β} (h : get? d k = some v) :
    (k, v) ∈ d := by
  rcases get?_isLookup.cases d k with ⟨_, h'⟩ | ⟨b, hb, h'⟩
  · cases h'.symm.trans h
  · cases h'.symm.trans h; exact hb

theorem get?_of_mem_nodup {β : Type} {d : List (Name × β)} {k : Name} {v : β}
    (hn : (keys d).Nodup) (h : (k, v) ∈ d) : get? d k = some v :=
  get?_isLookup.of_mem hn h

theorem get?_map_of_mem {β γ : Type} {key : γ → Name} (val : γ → β) {xs : List γ} (hn : (xs.map key).Nodup)
    {x : γ} (hx : x ∈ xs) : get? (xs.map fun x => (key x, val x)) (key x) = some (val x) :=
  get?_of_mem_nodup (by simpa [keys, List.map_map, Function.comp_def] using hn) (List.mem_map.mpr ⟨x, hx, rfl⟩)

theorem get?_map_val {β γ : Type} (d : List (Name × β)) (f : Name → β → γ) (k : Name) :
    get? (d.map fun e => (e.1, f e.1 e.2)) k = (get? d k).map (f k) := by
  induction d with
  | nil => rfl
  | cons e t ih =>
    obtain ⟨k0, v0⟩ := e
    simp only [List.map_cons, get?_cons]
    by_cases h : k0 = k
    · simp [h]
    · simp [h, ih]

theorem set_isUpdate {β : Type} (v : β) : Assoc.IsUpdate (fun d k => set d k v) fun _ => v :=
  ⟨fun _ => rfl, fun _ _ _ _ => rfl⟩

theorem push_isUpdate {β : Type} (v : β) : Assoc.IsUpdate (fun d k => push d k v) fun o => o.getD [] ++ [v] :=
  ⟨fun _ => rfl, fun _ _ _ _ => rfl⟩

theorem pushNew_isUpdate (v : Name) : Assoc.IsUpdate (fun d k => pushNew d k v) fun o => addNew (o.getD []) v :=
  ⟨fun _ => rfl, fun _ _ _ _ => rfl⟩

theorem get?_set {β : Type} (d : List (Name × β)) (k : Name) (v : β) (k' : Name) :
    get? (set d k v) k' = if k' = k then some v else get? d k' :=
  ((set_isUpdate v).get get?_isLookup d k k').trans (ite_congr (propext eq_comm) (fun _ => rfl) fun _ => rfl)

theorem keys_set {β : Type} (d : List (Name × β)) (k : Name) (v : β) :
    keys (set d k v) = if k ∈ keys d then keys d else keys d ++ [k] :=
  (set_isUpdate v).keys d k _

theorem keys_set_of_mem {β : Type} {d : List (Name × β)} {k : Name} (v : β) (h : k ∈ keys d) :
    keys (set d k v) = keys d := by
  rw [keys_set, if_pos h]

theorem mem_set {β : Type} {d : List (Name × β)} {k : Name} {v : β} {e : Name × β}
    (h : e ∈ set d k v) : e ∈ d ∨ e = (k, v) :=
  ((set_isUpdate v).mem h).imp_right fun ⟨_, h⟩ => h

theorem set_of_not_mem {β : Type} {d : List (Name × β)} {k : Name} (v : β) (h : k ∉ keys d) :
    set d k v = d ++ [(k, v)] := by
  induction d with
  | nil => rfl
  | cons e t ih =>
    obtain ⟨k0, v0⟩ := e
    simp only [keys, List.map_cons, List.mem_cons, not_or] at h
    have h0 : ¬ k0 = k := fun e => h.1 e.symm
    unfold set
    simp only [h0, if_false, List.cons_append]
    rw [ih h.2]

theorem foldl_set_nodup {β γ : Type} (key : γ → Name) (val : γ → β) (xs : List γ)
    (d : List (Name × β)) (hn : (keys d ++ xs.map key).Nodup) :
    xs.foldl (fun d x => set d (key x) (val x)) d = d ++ xs.map fun x => (key x, val x) := by
  induction xs generalizing d with
  | nil => simp
  | cons x t ih =>
    simp only [List.foldl_cons, List.map_cons]
    have hx : key x ∉ keys d := by
      intro h
      rw [List.nodup_append] at hn
      exact hn.2.2 _ h _ List.mem_cons_self rfl
    rw [set_of_not_mem _ hx, ih]
    · simp
    · simp only [keys, List.map_append, List.map_cons, List.map_nil, List.append_assoc,
        List.cons_append, List.nil_append]
      simpa [keys] using hn

/-! ## The inverted indexes `collect` and `collectNew` (the labels index after fix F47) -/

/-- occurrences of `k`, in order -/
def occOf (occ : List (Name × Name)) (k : Name) : List Name :=
  (occ.filter fun o => decide (o.1 = k)).map (·.2)

/-- the consecutive-duplicate-free list: what `addNew` builds from the occurrences -/
def dedupAdj (xs : List Name) : List Name := xs.foldl addNew []

theorem get?_collect (occ : List (Name × Name)) (k : Name) :
    get? (collect occ) k = if occOf occ k = [] then none else some (occOf occ k) := by
  have snoc : ∀ (vs l : List Name), vs.foldl (fun l v => l ++ [v]) l = l ++ vs := by
    intro vs
    induction vs with
    | nil => intro l; simp
    | cons v vs ih => intro l; simp [ih]
  rw [collect, Assoc.lookup_foldl (val := fun o : Name × Name => o.2) (c := fun l v => l ++ [v]) (b0 := [])
    fun d o k => (push_isUpdate o.2).get get?_isLookup d o.1 k, snoc]
  rfl

theorem nodup_keys_collect (occ : List (Name × Name)) : (keys (collect occ)).Nodup :=
  List.foldlRecOn (motive := fun d => (keys d).Nodup) occ _ List.nodup_nil
    fun _ h o _ => (push_isUpdate o.2).nodup_keys h o.1

theorem get?_collectNew (occ : List (Name × Name)) (k : Name) :
    get? (collectNew occ) k = if occOf occ k = [] then none else some (dedupAdj (occOf occ k)) :=
  Assoc.lookup_foldl (val := fun o : Name × Name => o.2) (c := addNew) (b0 := [])
    (fun d o k => (pushNew_isUpdate o.2).get get?_isLookup d o.1 k) occ [] k

theorem nodup_keys_collectNew (occ : List (Name × Name)) : (keys (collectNew occ)).Nodup :=
  List.foldlRecOn (motive := fun d => (keys d).Nodup) occ _ List.nodup_nil
    fun _ h o _ => (pushNew_isUpdate o.2).nodup_keys h o.1

theorem mem_addNew {vs : List Name} {v x : Name} : x ∈ addNew vs v ↔ x ∈ vs ∨ x = v := by
  unfold addNew
  split
  · rename_i hl
    exact ⟨Or.inl, fun h => h.elim id fun e => e ▸ List.mem_of_getLast? hl⟩
  · simp

theorem mem_foldl_addNew (xs l : List Name) (x : Name) :
    x ∈ xs.foldl addNew l ↔ x ∈ l ∨ x ∈ xs := by
  induction xs generalizing l with
  | nil => simp
  | cons a t ih => rw [List.foldl_cons, ih, mem_addNew, List.mem_cons, or_assoc]

theorem getLast?_addNew (l : List Name) (a : Name) : (addNew l a).getLast? = some a := by
  unfold addNew
  split
  · rename_i h; exact h
  · simp

/-- a block of equal values adds its value at most once -/
theorem foldl_addNew_const (xs l : List Name) (a : Name) (h : ∀ x ∈ xs, x = a) :
    xs.foldl addNew l = if xs = [] then l else addNew l a := by
  induction xs generalizing l with
  | nil => rfl
  | cons x t ih =>
    obtain rfl := h x List.mem_cons_self
    have idem : addNew (addNew l x) x = addNew l x := by rw [addNew, if_pos (getLast?_addNew l x)]
    rw [List.foldl_cons, ih _ (fun y hy => h y (List.mem_cons_of_mem _ hy)), idem]
    simp

theorem mem_dedupAdj (xs : List Name) (x : Name) : x ∈ dedupAdj xs ↔ x ∈ xs := by
  unfold dedupAdj
  rw [mem_foldl_addNew]
  simp

theorem keys_insertKey {β : Type} (e : Name × β) (d : List (Name × β)) :
    keys (insertKey e d) = insort e.1 (keys d) := by
  induction d with
  | nil => rfl
  | cons f t ih =>
    unfold insertKey
    show _ = insort e.1 (f.1 :: keys t)
    unfold insort
    split
    · rfl
    · exact congrArg (f.1 :: ·) ih

theorem get?_insertKey {β : Type} {e : Name × β} {d : List (Name × β)} (h : e.1 ∉ keys d)
    (k : Name) : get? (insertKey e d) k = if e.1 = k then some e.2 else get? d k := by
  induction d with
  | nil => rfl
  | cons f t ih =>
    obtain ⟨k0, v0⟩ := f
    have h' : ¬ e.1 = k0 ∧ e.1 ∉ keys t := not_or.mp fun h' => h (List.mem_cons.mpr h')
    unfold insertKey
    split
    · rfl
    · rw [get?_cons, ih h'.2, get?_cons]
      by_cases h0 : k0 = k
      · rw [if_pos h0, if_pos h0, if_neg fun e' => h'.1 (e'.trans h0.symm)]
      · rw [if_neg h0, if_neg h0]

theorem sortKeys_props {β : Type} (d : List (Name × β)) (hn : (keys d).Nodup) :
    StrictSorted (keys (sortKeys d)) ∧ (∀ k, get? (sortKeys d) k = get? d k) ∧
      (∀ k, k ∈ keys (sortKeys d) ↔ k ∈ keys d) := by
  induction d with
  | nil => simp [sortKeys, StrictSorted, keys]
  | cons e t ih =>
    obtain ⟨k0, v0⟩ := e
    simp only [keys, List.map_cons, List.nodup_cons] at hn
    obtain ⟨hs, hg, hm⟩ := ih hn.2
    have he : sortKeys ((k0, v0) :: t) = insertKey (k0, v0) (sortKeys t) := rfl
    have hk0 : k0 ∉ keys (sortKeys t) := fun h => hn.1 ((hm k0).mp h)
    rw [he]
    refine ⟨?_, ?_, ?_⟩
    · rw [keys_insertKey]; exact strictSorted_insort hs hk0
    · intro k
      rw [get?_insertKey hk0, hg, get?_cons]
    · intro k
      rw [keys_insertKey, mem_insort, hm]
      simp [keys, List.mem_cons]

theorem foldExcept_ok_of {σ α : Type} {f : σ → α → Except Err σ} (P : σ → Prop)
    (hstep : ∀ s a, P s → ∃ s', f s a = .ok s' ∧ P s') (s : σ) (l : List α) (hP : P s) :
    ∃ s', foldExcept f s l = .ok s' ∧ P s' := by
  induction l generalizing s with
  | nil => exact ⟨s, rfl, hP⟩
  | cons a t ih =>
    obtain ⟨s1, h1, hP1⟩ := hstep s a hP
    obtain ⟨s2, h2, hP2⟩ := ih s1 hP1
    refine ⟨s2, ?_, hP2⟩
    simp only [foldExcept, h1]
    exact h2

theorem foldExcept_append {σ α : Type} (f : σ → α → Except Err σ) (s : σ) (l₁ l₂ : List α) :
    foldExcept f s (l₁ ++ l₂) =
      match foldExcept f s l₁ with
      | .ok s' => foldExcept f s' l₂
      | .error e => .error e := by
  induction l₁ generalizing s with
  | nil => rfl
  | cons a t ih =>
    simp only [List.cons_append, foldExcept]
    cases f s a with
    | error e => rfl
    | ok s' => exact ih s'

theorem foldExcept_map {σ α β : Type} (g : β → α) (f : σ → α → Except Err σ) (s : σ) (l : List β) :
    foldExcept f s (l.map g) = foldExcept (fun s b => f s (g b)) s l := by
  induction l generalizing s with
  | nil => rfl
  | cons b t ih =>
    simp only [List.map_cons, foldExcept]
    cases f s (g b) with
    | error e => rfl
    | ok s' => exact ih s'

/-- The two nested loops of `compute_and_collect_exportations` are one loop over the pairs (importing, imported). -/
theorem exportations_eq (paths : List Name) (imps : List (Name × List Name)) :
    exportations paths imps =
      foldExcept (fun acc (p : Name × Name) => exportStep p.1 acc p.2) (paths.map fun p => (p, []))
        (imps.flatMap fun e => e.2.map fun x => (e.1, x)) := by
  unfold exportations
  generalize paths.map (fun p => (p, ([] : List Name))) = acc
  induction imps generalizing acc with
  | nil => rfl
  | cons e t ih =>
    rw [List.flatMap_cons, foldExcept_append, foldExcept_map]
    simp only [foldExcept]
    cases foldExcept (exportStep e.1) acc e.2 with
    | error err => rfl
    | ok acc1 => exact ih acc1

theorem exportStep_eq_ok {i x : Name} {acc acc1 : List (Name × List Name)} :
    exportStep i acc x = .ok acc1 ↔ ∃ l, get? acc x = some l ∧ acc1 = set acc x (insortNew i l) := by
  unfold exportStep
  cases get? acc x with
  | none => simp
  | some l => simp [eq_comm]

theorem exportLoop_spec (ps : List (Name × Name)) (acc acc' : List (Name × List Name))
    (h : foldExcept (fun acc (p : Name × Name) => exportStep p.1 acc p.2) acc ps = .ok acc') :
    keys acc' = keys acc ∧ (∀ p ∈ ps, p.2 ∈ keys acc) ∧
    (∀ k q, InAt acc' k q ↔ InAt acc k q ∨ (q, k) ∈ ps) ∧
    ((∀ e ∈ acc, StrictSorted e.2) → ∀ e ∈ acc', StrictSorted e.2) := by
  induction ps generalizing acc with
  | nil =>
    simp only [foldExcept, Except.ok.injEq] at h
    subst h
    simp
  | cons p t ih =>
    obtain ⟨i, x⟩ := p
    simp only [foldExcept] at h
    cases hstep : exportStep i acc x with
    | error e => rw [hstep] at h; cases h
    | ok acc1 =>
      rw [hstep] at h
      obtain ⟨l, hg, rfl⟩ := exportStep_eq_ok.mp hstep
      have hx : x ∈ keys acc := get?_isSome.mp ⟨l, hg⟩
      have hk1 := keys_set_of_mem (insortNew i l) hx
      obtain ⟨hk, hin, hmem, hsort⟩ := ih _ h
      refine ⟨hk.trans hk1, ?_, ?_, fun hs => hsort fun e he => ?_⟩
      · intro p hp
        rcases List.mem_cons.mp hp with rfl | hp
        · exact hx
        · exact hk1 ▸ hin p hp
      · intro k q
        have step : InAt (set acc x (insortNew i l)) k q ↔ InAt acc k q ∨ (q = i ∧ k = x) := by
          unfold InAt
          rw [get?_set]
          by_cases hk : k = x
          · subst hk
            simp [hg, mem_insortNew, or_comm]
          · simp [hk]
        rw [hmem, step, List.mem_cons, Prod.mk.injEq, or_assoc]
      · rcases mem_set he with he' | rfl
        · exact hs e he'
        · exact strictSorted_insortNew (hs (x, l) (get?_mem hg))

theorem exportLoop_ok (ps : List (Name × Name)) (acc : List (Name × List Name)) (hx : ∀ p ∈ ps, p.2 ∈ keys acc) :
    ∃ acc', foldExcept (fun acc (p : Name × Name) => exportStep p.1 acc p.2) acc ps = .ok acc' := by
  induction ps generalizing acc with
  | nil => exact ⟨acc, rfl⟩
  | cons p t ih =>
    obtain ⟨l, hl⟩ := get?_isSome.mpr (hx p List.mem_cons_self)
    obtain ⟨acc', h'⟩ := ih (set acc p.2 (insortNew p.1 l)) fun q hq => by
      rw [keys_set_of_mem _ (hx p List.mem_cons_self)]; exact hx q (List.mem_cons_of_mem _ hq)
    exact ⟨acc', by simp only [foldExcept, exportStep_eq_ok.mpr ⟨l, hl, rfl⟩]; exact h'⟩

theorem mem_importPairs {imps : List (Name × List Name)} {q p : Name} :
    (q, p) ∈ (imps.flatMap fun e => e.2.map fun x => (e.1, x)) ↔ ∃ e ∈ imps, e.1 = q ∧ p ∈ e.2 := by
  simp only [List.mem_flatMap, List.mem_map, Prod.mk.injEq]
  exact ⟨fun ⟨e, he, x, hx, h1, h2⟩ => ⟨e, he, h1, h2 ▸ hx⟩, fun ⟨e, he, h1, hp⟩ => ⟨e, he, p, hp, h1, rfl⟩⟩

theorem keys_exportations_init (paths : List Name) : keys (paths.map fun p => (p, ([] : List Name))) = paths := by
  simp [keys, List.map_map, Function.comp_def]

/-- `compute_and_collect_exportations`: when it returns, every imported path is a program path and
the result is the exact sorted inverse of `importations`, with the program paths as keys. -/
theorem exportations_spec {paths : List Name} {imps exps : List (Name × List Name)}
    (h : exportations paths imps = .ok exps) :
    keys exps = paths ∧ (∀ e ∈ imps, ∀ x ∈ e.2, x ∈ paths) ∧
    (∀ p q, InAt exps p q ↔ ∃ e ∈ imps, e.1 = q ∧ p ∈ e.2) ∧
    (∀ e ∈ exps, StrictSorted e.2) := by
  rw [exportations_eq] at h
  obtain ⟨hk, hin, hmem, hsort⟩ := exportLoop_spec _ _ exps h
  rw [keys_exportations_init] at hk hin
  refine ⟨hk, fun e he x hx => hin (e.1, x) (mem_importPairs.mpr ⟨e, he, rfl, hx⟩), fun p q => ?_, hsort ?_⟩
  · rw [hmem, mem_importPairs, or_iff_right]
    rintro ⟨l, hl, hq⟩
    obtain ⟨_, _, e⟩ := List.mem_map.mp (get?_mem hl)
    cases e; cases hq
  · intro e he
    obtain ⟨_, _, rfl⟩ := List.mem_map.mp he
    exact List.Pairwise.nil

theorem exportations_ok {paths : List Name} {imps : List (Name × List Name)}
    (hx : ∀ e ∈ imps, ∀ x ∈ e.2, x ∈ paths) : ∃ exps, exportations paths imps = .ok exps := by
  rw [exportations_eq]
  refine exportLoop_ok _ _ fun p hp => ?_
  obtain ⟨e, he, _, hm⟩ := mem_importPairs.mp (show (p.1, p.2) ∈ _ from hp)
  rw [keys_exportations_init]
  exact hx e he _ hm

end Paroxy.DB
