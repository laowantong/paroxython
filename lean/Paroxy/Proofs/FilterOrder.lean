/- Every command acts on the filter state through an *effect* that depends on the database and the
command only, never on the state: this is what makes pipelines order-independent (C06). -/
import Paroxy.Proofs.Filter
namespace Paroxy.Filter
open Paroxy

structure Effect where
  keep : Codes → Bool
  learn : List Codes
  hideT : List Codes
  hideP : List Codes

def Effect.id : Effect := { keep := fun _ => true, learn := [], hideT := [], hideP := [] }

def applyEffect (st : State) (e : Effect) : State :=
  { selected := st.selected.filter e.keep, knowledge := st.knowledge ++ e.learn,
    hiddenTaxa := st.hiddenTaxa ++ e.hideT, hiddenPrograms := st.hiddenPrograms ++ e.hideP }

/-- The effect of `update_filter(criteria, operation, quantifier)`: no filter state involved. -/
def effectOf (c : Ctx) (r : Relations) (criteria : List Criterion) (op : Operation) (quantAll : Bool) :
    Except Err Effect :=
  match op with
  | .impart =>
    let pats := criteria.filterMap patternOf
    let progs := (pats.filter endsWithPy).flatMap (programsOfPattern c)
    let taxa := pats.flatMap fun p =>
      if endsWithPy p then taxaOfPrograms c (programsOfPattern c p) false else taxaOfPattern c p
    .ok { Effect.id with keep := fun p => !progs.contains p, learn := taxa.flatMap prefixes }
  | .hide =>
    let pats := criteria.filterMap patternOf
    .ok { Effect.id with
      hideP := (pats.filter endsWithPy).flatMap (programsOfPattern c),
      hideT := (pats.filter (!endsWithPy ·)).flatMap (taxaOfPattern c) }
  | .include =>
    match mapE (criterionPrograms c r false) criteria with
    | .error e => .error e
    | .ok sets => .ok { Effect.id with keep := inBag sets quantAll }
  | .exclude =>
    match mapE (criterionPrograms c r true) criteria with
    | .error e => .error e
    | .ok sets =>
      let bag := (sets.flatten).filter (inBag sets quantAll)
      let drop := bag ++ bag.flatMap fun p => (dictGet? c.exportations p).getD []
      .ok { Effect.id with keep := fun p => !drop.contains p }

theorem filter_true {α} (l : List α) : l.filter (fun _ => true) = l :=
  List.filter_eq_self.mpr fun _ _ => rfl

theorem applyEffect_id (st : State) : applyEffect st Effect.id = st := by
  simp only [applyEffect, Effect.id, List.append_nil, filter_true]

theorem updateFilter_effect (c : Ctx) (r : Relations) (st : State) (cs : List Criterion) (op : Operation)
    (q : Bool) :
    updateFilter c r st cs op q =
      match effectOf c r cs op q with
      | .error e => .error e
      | .ok eff => .ok (applyEffect st eff) := by
  rcases op with _ | _ | _ | _
  · unfold updateFilter effectOf
    cases mapE (criterionPrograms c r false) cs with
    | error e => rfl
    | ok sets => simp only [applyEffect, Effect.id, List.append_nil]; rfl
  · unfold updateFilter effectOf
    cases mapE (criterionPrograms c r true) cs with
    | error e => rfl
    | ok sets => simp only [applyEffect, Effect.id, List.append_nil]; rfl
  · simp only [updateFilter, effectOf, applyEffect, Effect.id, List.append_nil]; rfl
  · simp only [updateFilter, effectOf, applyEffect, Effect.id, List.append_nil, filter_true]

def commandEffect (c : Ctx) (r : Relations) (cmd : Command) : Except Err Effect :=
  match parseOperation cmd.operation with
  | none => .ok Effect.id
  | some (op, q) => if cmd.data.isEmpty then .ok Effect.id else effectOf c r cmd.data op q

theorem runCommand_effect (c : Ctx) (r : Relations) (st : State) (cmd : Command) :
    runCommand c r st cmd =
      match commandEffect c r cmd with
      | .error e => .error e
      | .ok eff => .ok (applyEffect st eff) := by
  unfold runCommand commandEffect
  cases parseOperation cmd.operation with
  | none => simp [applyEffect_id]
  | some v =>
    obtain ⟨op, q⟩ := v
    by_cases hd : cmd.data.isEmpty = true
    · simp [hd, applyEffect_id]
    · simp only [hd]
      exact updateFilter_effect c r st cmd.data op q

/-- Two states with the same four *sets*. -/
def SameSets (s1 s2 : State) : Prop :=
  (∀ x, x ∈ s1.selected ↔ x ∈ s2.selected) ∧ (∀ x, x ∈ s1.knowledge ↔ x ∈ s2.knowledge) ∧
  (∀ x, x ∈ s1.hiddenTaxa ↔ x ∈ s2.hiddenTaxa) ∧ (∀ x, x ∈ s1.hiddenPrograms ↔ x ∈ s2.hiddenPrograms)

theorem Narrows.congr {st st' : State} {K K' : Codes → Prop} (h : Narrows st st' K)
    (hK : ∀ p, p ∈ st.selected → (K p ↔ K' p)) : Narrows st st' K' :=
  ⟨fun p => (h.1 p).trans (and_congr_right (hK p)), h.2⟩

theorem Narrows.trans {st sm st' : State} {K K' : Codes → Prop} (h : Narrows st sm K) (h' : Narrows sm st' K') :
    Narrows st st' fun p => K p ∧ K' p :=
  ⟨fun p => by rw [h'.1 p, h.1 p, and_assoc], h'.2.1.trans h.2.1, h'.2.2.1.trans h.2.2.1,
    h'.2.2.2.trans h.2.2.2⟩

theorem Narrows.sameSets {st s1 s2 : State} {K1 K2 : Codes → Prop} (h1 : Narrows st s1 K1) (h2 : Narrows st s2 K2)
    (hK : ∀ p, p ∈ st.selected → (K1 p ↔ K2 p)) : SameSets s1 s2 :=
  ⟨fun p => by rw [h1.1 p, h2.1 p]; exact and_congr_right (hK p), fun x => by rw [h1.2.1, h2.2.1],
    fun x => by rw [h1.2.2.1, h2.2.2.1], fun x => by rw [h1.2.2.2, h2.2.2.2]⟩

theorem foldE_narrows {α ε : Type} {f : State → α → Except ε State} {K : α → Codes → Prop}
    (hstep : ∀ st sm a, f st a = .ok sm → Narrows st sm (K a))
    (l : List α) (st s2 : State) (h : foldE f st l = .ok s2) :
    Narrows st s2 fun p => ∀ a ∈ l, K a p := by
  induction l generalizing st with
  | nil => cases h; exact ⟨fun p => by simp, rfl, rfl, rfl⟩
  | cons a t ih =>
    unfold foldE at h
    cases hu : f st a with
    | error e => rw [hu] at h; cases h
    | ok sm =>
      rw [hu] at h
      exact ((hstep st sm a hu).trans (ih sm h)).congr fun p _ =>
        (List.forall_mem_cons (p := fun a => K a p)).symm

theorem runPipeline_cons (c : Ctx) (r : Relations) (st : State) (cmd : Command) (t : List Command) :
    runPipeline c r st (cmd :: t) =
      match commandEffect c r cmd with
      | .error e => .error e
      | .ok eff => runPipeline c r (applyEffect st eff) t := by
  simp only [runPipeline, foldE]
  rw [runCommand_effect]
  cases commandEffect c r cmd <;> rfl

/-- What a whole pipeline adds to one of the three growing sets (`g`, grown by the field `f` of the
effects), stated command-wise, hence independently of their order. -/
theorem runPipeline_grows (c : Ctx) (r : Relations) (f : Effect → List Codes) (g : State → List Codes)
    (hfg : ∀ st e, g (applyEffect st e) = g st ++ f e) (cmds : List Command) (st s : State)
    (h : runPipeline c r st cmds = .ok s) (x : Codes) :
    x ∈ g s ↔ x ∈ g st ∨ ∃ cmd ∈ cmds, ∃ e, commandEffect c r cmd = .ok e ∧ x ∈ f e := by
  induction cmds generalizing st with
  | nil => cases h; simp
  | cons cmd t ih =>
    rw [runPipeline_cons] at h
    cases he : commandEffect c r cmd with
    | error e => rw [he] at h; cases h
    | ok eff =>
      rw [he] at h
      rw [ih _ h, hfg]
      simp only [List.mem_append, List.mem_cons, exists_eq_or_imp, he, Except.ok.injEq, exists_eq_left',
        or_assoc]

theorem runPipeline_ok_iff (c : Ctx) (r : Relations) (cmds : List Command) (st : State) :
    (∃ s, runPipeline c r st cmds = .ok s) ↔ ∀ cmd ∈ cmds, ∃ e, commandEffect c r cmd = .ok e := by
  induction cmds generalizing st with
  | nil => exact ⟨fun _ _ h => (nomatch h), fun _ => ⟨st, rfl⟩⟩
  | cons cmd t ih =>
    rw [runPipeline_cons, List.forall_mem_cons]
    cases commandEffect c r cmd with
    | error e => exact ⟨fun ⟨_, h⟩ => (nomatch h), fun ⟨⟨_, h⟩, _⟩ => (nomatch h)⟩
    | ok eff => exact (ih (applyEffect st eff)).trans ⟨fun h => ⟨⟨eff, rfl⟩, h⟩, And.right⟩

theorem runPipeline_selected (c : Ctx) (r : Relations) (cmds : List Command) (st s : State)
    (h : runPipeline c r st cmds = .ok s) :
    s.selected = st.selected.filter fun p => cmds.all fun cmd =>
      match commandEffect c r cmd with
      | .ok e => e.keep p
      | .error _ => true := by
  induction cmds generalizing st with
  | nil => cases h; exact (filter_true _).symm
  | cons cmd t ih =>
    rw [runPipeline_cons] at h
    cases he : commandEffect c r cmd with
    | error e => rw [he] at h; cases h
    | ok eff =>
      rw [he] at h
      rw [ih _ h]
      simp only [applyEffect, List.filter_filter, List.all_cons, he, Bool.and_comm]

theorem runPipeline_sublist (c : Ctx) (r : Relations) (cmds : List Command) (st s : State)
    (h : runPipeline c r st cmds = .ok s) : s.selected.Sublist st.selected := by
  rw [runPipeline_selected c r cmds st s h]; exact List.filter_sublist

end Paroxy.Filter
