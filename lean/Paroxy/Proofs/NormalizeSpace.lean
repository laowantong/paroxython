/-
Decoration words and negation markers separated by ANY white space. The code detects `not\s+` / `\s+not` but
removes only the literal `"not "` / `" not"`, and `is` only next to a literal space; otherwise the word stays and
the salvage pipeline erases it with every other character outside `xy<=≤`. So a text `P ++ T ++ Q` with `T` a
core and `P`, `Q` dead (no character of `xy<=≤`) keeps this shape through every stage (`Keeps`: each stage only
deletes characters of `P` and `Q`) and salvages to the key of `T`; the flag is what the negation stage computed.
-/
import Paroxy.Proofs.NormalizePredicate
namespace Paroxy.NP
open Paroxy Paroxy.Spec Paroxy.Spec.NP

theorem Dead.nil : Dead [] := fun _ hc => by cases hc

theorem ra_append_dead (a b r : Nat) (D : Str) (hD : ∀ c ∈ D, c ≠ a ∧ c ≠ b) :
    ∀ (Y : Str) (n : Nat), n ≤ Y.length →
      replaceAll [a, b] [r] n (Y ++ D) = replaceAll [a, b] [r] n Y ++ D := by
  intro Y n hn
  cases D with
  | nil => simp
  | cons d D' =>
    rw [ra_split (by simpa using (hD d List.mem_cons_self).2) D' Y n hn, ra_id _ fun c hc => (hD c hc).1]

theorem salvage_dead_pre {D : Str} (h : Dead D) (Y : Str) : salvage (D ++ Y) = salvage Y := by
  have h60 := h.ne 60 rfl
  have h61 := h.ne 61 rfl
  simp only [salvage, ra_pass D Y h60, ra_pass D _ h61, List.filter_append, filter_dead h,
    List.nil_append]

theorem salvage_dead_post {D : Str} (h : Dead D) (Y : Str) : salvage (Y ++ D) = salvage Y := by
  have h1 : ∀ c ∈ D, c ≠ 60 ∧ c ≠ 61 := fun c hc => ⟨h.ne 60 rfl c hc, h.ne 61 rfl c hc⟩
  have h2 : ∀ c ∈ D, c ≠ 61 ∧ c ≠ 61 := fun c hc => ⟨h.ne 61 rfl c hc, h.ne 61 rfl c hc⟩
  simp only [salvage, ra_append_dead 60 61 8804 D h1 Y 0 (Nat.zero_le _),
    ra_append_dead 61 61 61 D h2 _ 0 (Nat.zero_le _), List.filter_append, filter_dead h, List.append_nil]

theorem names_len7 :
    names.all (fun p => (p.1 == p.2 && valueOk p.1) || (salvage p.1).length != 7) = true := by
  rw [List.all_eq_true]
  intro p hp
  obtain ⟨hv, h | h⟩ := names_keyDict.entry p hp
  · rw [h]; simp [hv]
  · simp [h]

theorem lookup_of_salvage {k : Key} (hk : k ∈ allKeys) {p : Str} (hs : salvage p = k.codes) (neg : Bool) :
    lookup names p neg = some (k.codes, neg) :=
  names_keyDict.lookup hk hs neg

theorem ite_sublist {c : Prop} [Decidable c] {a b l : Str} (ha : a.Sublist l) (hb : b.Sublist l) :
    (if c then a else b).Sublist l := by
  split <;> assumption

theorem ra_del_sublist (pat : Str) : ∀ (s : Str) (n : Nat), (replaceAll pat [] n s).Sublist s
  | [], n => by cases n <;> simp [replaceAll]
  | d :: t, n + 1 => by simpa only [replaceAll] using (ra_del_sublist pat t n).cons d
  | d :: t, 0 => by
    rw [replaceAll]
    exact ite_sublist ((ra_del_sublist pat t _).cons d) ((ra_del_sublist pat t 0).cons_cons d)

theorem subIs_sublist : ∀ (s : Str) (prev : Option Nat) (n : Nat), (subIs prev n s).Sublist s
  | [], prev, n => by cases n <;> simp [subIs]
  | d :: t, prev, n + 1 => by simpa only [subIs] using (subIs_sublist t _ n).cons d
  | d :: t, prev, 0 => by
    rw [subIs.eq_def]
    exact ite_sublist ((subIs_sublist t _ 2).cons d) ((subIs_sublist t _ 0).cons_cons d)

theorem ra_del_mem (pat : Str) : ∀ (s : Str) (n : Nat) (c : Nat), c ∈ replaceAll pat [] n s → c ∈ s :=
  fun s n _ h => (ra_del_sublist pat s n).subset h

theorem subIs_mem : ∀ (s : Str) (prev : Option Nat) (n : Nat) (c : Nat), c ∈ subIs prev n s → c ∈ s :=
  fun s prev n _ h => (subIs_sublist s prev n).subset h

theorem lstrip_mem (s : Str) : ∀ c ∈ lstrip s, c ∈ s := fun _ hc => (List.dropWhile_sublist _).subset hc

theorem rstrip_mem (s : Str) : ∀ c ∈ rstrip s, c ∈ s := by
  intro c hc
  unfold rstrip at hc
  exact List.mem_reverse.mp ((List.dropWhile_sublist _).subset (List.mem_reverse.mp hc))

theorem ra4_pre (p0 p1 p2 p3 t0 : Nat) (Z' : Str) (h1 : t0 ≠ p1) (h2 : t0 ≠ p2) (h3 : t0 ≠ p3) :
    ∀ (P : Str) (n : Nat), n ≤ P.length → ∃ P', (∀ c ∈ P', c ∈ P) ∧
      replaceAll [p0, p1, p2, p3] [] n (P ++ t0 :: Z') = P' ++ replaceAll [p0, p1, p2, p3] [] 0 (t0 :: Z') :=
  fun P n hn => ⟨_, ra_del_mem _ P n, ra_split (by simp [h1, h2, h3]) Z' P n hn⟩

theorem raNotSp_pass (T Q : Str) (h : ∀ c ∈ T, c ≠ 110) :
    replaceAll sNotSp [] 0 (T ++ Q) = T ++ replaceAll sNotSp [] 0 Q :=
  ra_pass T Q h

theorem raSpNot_pass (ys : Str) (d : Nat) (Q : Str) (h : ∀ c ∈ ys, c ≠ 110) (hd : d ≠ 110) (hd' : d ≠ 32) :
    replaceAll sSpNot [] 0 (ys ++ d :: Q) = ys ++ d :: replaceAll sSpNot [] 0 Q :=
  (ra_pass₂ ys (d :: Q) h (by simpa using hd)).trans
    (congrArg (ys ++ ·) (ra_pass (p0 := 32) [d] Q (by simpa using hd')))

theorem subIs_pre (t0 : Nat) (Z' : Str) (h1 : t0 ≠ 105) (h2 : t0 ≠ 115) (h3 : t0 ≠ 32) :
    ∀ (P : Str) (prev : Option Nat) (n : Nat), n ≤ P.length → ∃ P' prev', (∀ c ∈ P', c ∈ P) ∧
      subIs prev n (P ++ t0 :: Z') = P' ++ subIs prev' 0 (t0 :: Z') := by
  intro P
  induction P with
  | nil =>
    intro prev n hn
    obtain rfl : n = 0 := by simpa using hn
    exact ⟨[], prev, fun _ h => h, rfl⟩
  | cons c P1 ih =>
    intro prev n hn
    have step : ∀ m, m ≤ P1.length → ∃ P' prev', (∀ x ∈ P', x ∈ c :: P1) ∧
        subIs (some c) m (P1 ++ t0 :: Z') = P' ++ subIs prev' 0 (t0 :: Z') := fun m hm =>
      let ⟨P', pv, hs, he⟩ := ih (some c) m hm
      ⟨P', pv, fun x hx => List.mem_cons_of_mem _ (hs x hx), he⟩
    cases n with
    | succ m => exact step m (by simpa using hn)
    | zero =>
      rw [List.cons_append, subIs.eq_def]
      dsimp only
      generalize hp : (_ || _ : Bool) = b
      cases b
      · obtain ⟨P', pv, hs, he⟩ := ih (some c) 0 (Nat.zero_le _)
        exact ⟨c :: P', pv, List.cons_subset_cons c hs, congrArg (c :: ·) he⟩
      · refine step 2 ?_
        rcases P1 with _ | ⟨a, _ | ⟨b, P3⟩⟩
        · simp [List.isPrefixOf, h1.symm, h2.symm] at hp
        · simp [List.isPrefixOf, h2.symm, h3.symm] at hp
        · simp

theorem subIs_pass (ys : Str) (d : Nat) (Q : Str) (h : ∀ c ∈ ys, c ≠ 105) (hd : d ≠ 105) (hd' : d ≠ 32) :
    ∀ prev, ∃ prev', subIs prev 0 (ys ++ d :: Q) = ys ++ d :: subIs prev' 0 Q := by
  induction ys with
  | nil =>
    intro prev
    have hb : (d == 32) = false := by simpa using hd'
    have hb' : (d == 105) = false := by simpa using hd
    exact ⟨some d, by simp [subIs, hb, hb']⟩
  | cons c t ih =>
    intro prev
    have ht : ∀ x ∈ t, x ≠ 105 := fun x hx => h x (List.mem_cons_of_mem _ hx)
    have hc : c ≠ 105 := h c List.mem_cons_self
    have hb : (c == 105) = false := by simpa using hc
    have a1 : ([105, 115] : Str).isPrefixOf (t ++ d :: Q) = false :=
      isPrefixOf_of_head_ne (head?_append_ne ht (by simpa using hd))
    obtain ⟨pv, he⟩ := ih ht (some c)
    exact ⟨pv, by simp [subIs, a1, hb, he]⟩

/-- `p` is `T` between two dead strings. -/
def Keeps (T p : Str) : Prop := ∃ P Q, p = P ++ (T ++ Q) ∧ Dead P ∧ Dead Q

theorem Core.ne {k : Key} {T : Str} (h : Core k T) :
    ∀ c ∈ T, c ≠ 110 ∧ c ≠ 105 ∧ c ≠ 33 ∧ c ≠ 111 ∧ c ≠ 116 ∧ c ≠ 115 :=
  fun c hc => fchar_ne (List.all_eq_true.mp h.fch c hc)

theorem ne_32_of_not_space {c : Nat} (h : isSpace c = false) : c ≠ 32 := by
  intro e; subst e; cases h

section keeps
variable {k : Key} {T : Str} (hT : Core k T)
include hT

theorem keeps_lstrip {p : Str} (hp : Keeps T p) : Keeps T (lstrip p) := by
  obtain ⟨P, Q, rfl, hP, hQ⟩ := hp
  obtain ⟨c, r, rfl, hc⟩ := hT.hd
  exact ⟨lstrip P, Q, lstrip_append_stop P c (r ++ Q) hc, hP.sub (lstrip_mem P), hQ⟩

theorem keeps_rstrip {p : Str} (hp : Keeps T p) : Keeps T (rstrip p) := by
  obtain ⟨P, Q, rfl, hP, hQ⟩ := hp
  obtain ⟨ys, d, rfl, hd⟩ := hT.lst
  refine ⟨P, rstrip Q, ?_, hP, hQ.sub (rstrip_mem Q)⟩
  simpa [List.append_assoc] using rstrip_append_stop (P ++ ys) d Q hd

theorem keeps_bang {t : Str} (hp : Keeps T (33 :: t)) : Keeps T t := by
  obtain ⟨P, Q, e, hP, hQ⟩ := hp
  cases P with
  | nil =>
    obtain ⟨c, r, rfl, _⟩ := hT.hd
    have := (hT.ne c List.mem_cons_self).2.2.1
    simp only [List.nil_append, List.cons_append, List.cons.injEq] at e
    exact absurd e.1.symm this
  | cons a P1 =>
    simp only [List.cons_append, List.cons.injEq] at e
    exact ⟨P1, Q, e.2, fun c hc => hP c (List.mem_cons_of_mem _ hc), hQ⟩

theorem keeps_raNotSp {p : Str} (hp : Keeps T p) : Keeps T (replaceAll sNotSp [] 0 p) := by
  obtain ⟨P, Q, rfl, hP, hQ⟩ := hp
  refine ⟨_, _, ?_, hP.sub (ra_del_mem sNotSp P 0), hQ.sub (ra_del_mem sNotSp Q 0)⟩
  rw [← raNotSp_pass T Q fun x hx => (hT.ne x hx).1]
  obtain ⟨c, r, rfl, hc⟩ := hT.hd
  have hn := hT.ne c List.mem_cons_self
  exact ra_split (by simp [hn.2.2.2.1, hn.2.2.2.2.1, ne_32_of_not_space hc]) (r ++ Q) P 0 (Nat.zero_le _)

theorem keeps_raSpNot {p : Str} (hp : Keeps T p) : Keeps T (replaceAll sSpNot [] 0 p) := by
  obtain ⟨P, Q, rfl, hP, hQ⟩ := hp
  refine ⟨_, _, ?_, hP.sub (ra_del_mem sSpNot P 0), hQ.sub (ra_del_mem sSpNot Q 0)⟩
  have e : replaceAll sSpNot [] 0 (T ++ Q) = T ++ replaceAll sSpNot [] 0 Q := by
    obtain ⟨ys, d, rfl, hd⟩ := hT.lst
    simpa using raSpNot_pass ys d Q (fun x hx => (hT.ne x (by simp [hx])).1) (hT.ne d (by simp)).1
      (ne_32_of_not_space hd)
  rw [← e]
  obtain ⟨c, r, rfl, hc⟩ := hT.hd
  have hn := hT.ne c List.mem_cons_self
  exact ra_split (by simp [hn.1, hn.2.2.2.1, hn.2.2.2.2.1]) (r ++ Q) P 0 (Nat.zero_le _)

theorem keeps_subIs {p : Str} (hp : Keeps T p) (prev : Option Nat) : Keeps T (subIs prev 0 p) := by
  obtain ⟨P, Q, rfl, hP, hQ⟩ := hp
  obtain ⟨P', pv, hs, he⟩ : ∃ P' pv, (∀ c ∈ P', c ∈ P) ∧ subIs prev 0 (P ++ (T ++ Q)) = P' ++ subIs pv 0 (T ++ Q) := by
    obtain ⟨c, r, rfl, hc⟩ := hT.hd
    have hn := hT.ne c List.mem_cons_self
    exact subIs_pre c (r ++ Q) hn.2.1 hn.2.2.2.2.2 (ne_32_of_not_space hc) P prev 0 (Nat.zero_le _)
  obtain ⟨pv', e2⟩ : ∃ pv', subIs pv 0 (T ++ Q) = T ++ subIs pv' 0 Q := by
    obtain ⟨ys, d, rfl, hd⟩ := hT.lst
    simpa using subIs_pass ys d Q (fun x hx => (hT.ne x (by simp [hx])).2.1) (hT.ne d (by simp)).2.1
      (ne_32_of_not_space hd) pv
  exact ⟨P', subIs pv' 0 Q, by rw [he, e2], hP.sub hs, hQ.sub (subIs_mem Q pv' 0)⟩

theorem keeps_negation {p : Str} (hp : Keeps T p) : Keeps T (negation p).1 := by
  unfold negation
  split
  · exact keeps_bang hT hp
  · split
    · exact keeps_raNotSp hT hp
    · split
      · exact keeps_raSpNot hT hp
      · exact hp

end keeps

theorem KeyDict.finish_keeps {nm : List (Codes × Codes)} (hnm : KeyDict nm) {k : Key} (hk : k ∈ allKeys)
    {T : Str} (hT : Core k T) {p : Str} (hp : Keeps T p) (neg : Bool) :
    finish nm p neg = some (k.codes, neg) := by
  rw [finish_eq]
  obtain ⟨P, Q, e, hP, hQ⟩ := keeps_subIs hT (keeps_rstrip hT (keeps_lstrip hT hp)) none
  apply hnm.lookup hk
  rw [strip, e, salvage_dead_pre hP, salvage_dead_post hQ]
  simpa using hT.salv [] [] rfl rfl

theorem negation_snd (p : Str) :
    (negation p).2 = (p.head? == some 33 || searchNot1 p || searchNot2 p) := by
  unfold negation
  split
  · simp
  · rename_i hne
    have h0 : (p.head? == some 33) = false := by
      cases p with
      | nil => rfl
      | cons c t =>
        have : c ≠ 33 := fun e => hne t (by rw [e])
        simpa using this
    rw [h0]
    cases searchNot1 p <;> cases searchNot2 p <;> rfl

theorem hasNotWs_eq : ∀ s : Str, hasNotWs s = searchNot1 s := by
  intro s
  induction s with
  | nil => rfl
  | cons c t ih =>
    simp only [hasNotWs, searchNot1, ih]
    generalize List.drop 3 (c :: t) = l
    cases l <;> rfl

theorem hasWsNot_eq : ∀ s : Str, hasWsNot s = searchNot2 s := by
  intro s
  induction s with
  | nil => rfl
  | cons c t ih => simp only [hasWsNot, searchNot2, ih]

theorem KeyDict.normalizeLow_keeps {nm : List (Codes × Codes)} (hnm : KeyDict nm) {k : Key} (hk : k ∈ allKeys)
    {T : Str} (hT : Core k T) {p : Str} (hp : Keeps T p) :
    normalizeLow nm p = some (k.codes, p.head? == some 33 || hasNotWs p || hasWsNot p) := by
  rw [hasNotWs_eq, hasWsNot_eq, ← negation_snd]
  exact hnm.finish_keeps hk hT (keeps_negation hT hp) _

theorem keeps_normalizeLow {k : Key} (hk : k ∈ allKeys) {T : Str} (hT : Core k T) {p : Str} (hp : Keeps T p) :
    normalizeLow names p = some (k.codes, p.head? == some 33 || hasNotWs p || hasWsNot p) :=
  names_keyDict.normalizeLow_keeps hk hT hp

theorem deco_dead {P : Str} (h : P.all decoChar = true) : Dead (lower P) := by
  intro c hc
  obtain ⟨a, ha, rfl⟩ := List.mem_map.mp hc
  have := List.all_eq_true.mp h a ha
  simp only [decoChar, Bool.or_eq_true, beq_iff_eq, isSpace_iff] at this
  rw [allowed_false, lowerC]
  split <;> omega

theorem KeyDict.spaced_body {nm : List (Codes × Codes)} (hnm : KeyDict nm) {k : Key} (hk : k ∈ allKeys)
    {R : Str} (hR : Body k (lower R)) {P Q : Str} (hP : P.all decoChar = true) (hQ : Q.all decoChar = true) :
    normalize nm (P ++ R ++ Q) = some (k.codes, carriesNeg (P ++ R ++ Q)) := by
  obtain ⟨a, T, b, e, ha, hb, hT⟩ := hR
  have h0 : Keeps T (lower (P ++ R ++ Q)) := by
    refine ⟨lower P ++ a, b ++ lower Q, ?_, (deco_dead hP).append (junk_dead ha), (junk_dead hb).append (deco_dead hQ)⟩
    rw [lower_append, lower_append, e]
    simp [List.append_assoc]
  have h1 : Keeps T (strip (lower (P ++ R ++ Q))) := keeps_rstrip hT (keeps_lstrip hT h0)
  rw [normalize_eq, hnm.normalizeLow_keeps hk hT h1]
  rfl

theorem spaced_body {k : Key} (hk : k ∈ allKeys) {R : Str} (hR : Body k (lower R)) {P Q : Str}
    (hP : P.all decoChar = true) (hQ : Q.all decoChar = true) :
    normalize names (P ++ R ++ Q) = some (k.codes, carriesNeg (P ++ R ++ Q)) :=
  names_keyDict.spaced_body hk hR hP hQ

theorem body_lower_formula (k : Key) (hk : k ∈ allKeys) (st : FormulaStyle) (ok : StyleOk st) :
    Body k (lower (renderFormula k st)) := by
  rw [lower_formula k st ok]
  exact body_formula k hk _ (styleOk_low ok) (isLower_low st)

def carries' (L : Str) : Bool := (strip L).head? == some 33 || hasNotWs (strip L) || hasWsNot (strip L)

theorem carriesNeg_eq (s : Str) : carriesNeg s = carries' (lower s) := rfl

theorem searchNot1_mid (A B : Str) {c : Nat} (hc : isSpace c = true) :
    searchNot1 (A ++ sNot ++ c :: B) = true := by
  induction A with
  | nil => simp [searchNot1, sNot, List.isPrefixOf, hc]
  | cons a t ih =>
    simp only [List.cons_append, searchNot1, Bool.or_eq_true]
    exact Or.inr ih

theorem searchNot2_mid (A B : Str) {c : Nat} (hc : isSpace c = true) :
    searchNot2 (A ++ c :: (sNot ++ B)) = true := by
  induction A with
  | nil => simp [searchNot2, sNot, List.isPrefixOf, hc]
  | cons a t ih =>
    simp only [List.cons_append, searchNot2, Bool.or_eq_true]
    exact Or.inr ih

theorem flag_bang {ws : Str} (hws : ws.all isSpace = true) (rest : Str) : carries' (ws ++ 33 :: rest) = true := by
  have : strip (ws ++ 33 :: rest) = 33 :: rstrip rest := by
    unfold strip
    rw [lstrip_ws_cons hws _ _ (by rfl)]
    exact rstrip_append_stop [] 33 rest rfl
  simp [carries', this]

theorem flag_not1 (A B : Str) {c : Nat} (hc : isSpace c = true) (hB : ∃ x ∈ B, isSpace x = false) :
    carries' (A ++ sNot ++ c :: B) = true := by
  have : strip (A ++ sNot ++ c :: B) = lstrip A ++ sNot ++ c :: rstrip B := by
    unfold strip
    have e1 : A ++ sNot ++ c :: B = A ++ 110 :: (111 :: 116 :: c :: B) := by simp [sNot]
    rw [e1, lstrip_append_stop _ _ _ (by rfl)]
    have := rstrip_app_of_nonspace hB (lstrip A ++ [110, 111, 116, c])
    simpa [sNot] using this
  unfold carries'
  rw [this, hasNotWs_eq, searchNot1_mid _ _ hc]
  simp

theorem flag_not2 (A B : Str) {c : Nat} (hc : isSpace c = true) (hA : ∃ x ∈ A, isSpace x = false) :
    carries' (A ++ c :: (sNot ++ B)) = true := by
  have : strip (A ++ c :: (sNot ++ B)) = lstrip A ++ c :: (sNot ++ rstrip B) := by
    unfold strip
    rw [lstrip_app_of_nonspace hA]
    simpa [sNot] using rstrip_append_stop (lstrip A ++ [c, 110, 111]) 116 B rfl
  unfold carries'
  rw [this, hasWsNot_eq, searchNot2_mid _ _ hc]
  simp

theorem searchNot1_pass (T Q : Str) (h : ∀ c ∈ T, c ≠ 110) : searchNot1 (T ++ Q) = searchNot1 Q := by
  induction T with
  | nil => rfl
  | cons c t ih =>
    have hc : (110 == c) = false := by simpa using (h c List.mem_cons_self).symm
    simp only [List.cons_append, searchNot1, sNot, List.isPrefixOf, hc, Bool.false_and, Bool.false_or]
    exact ih fun d hd => h d (List.mem_cons_of_mem _ hd)

theorem searchNot2_pass (T Q : Str) (h : ∀ c ∈ T, c ≠ 110) (hQ : Q.head? ≠ some 110) :
    searchNot2 (T ++ Q) = searchNot2 Q := by
  induction T with
  | nil => rfl
  | cons c t ih =>
    have ht : ∀ d ∈ t, d ≠ 110 := fun d hd => h d (List.mem_cons_of_mem _ hd)
    simp only [List.cons_append, searchNot2, sNot, isPrefixOf_of_head_ne (head?_append_ne ht hQ), Bool.and_false,
      Bool.false_or, ih ht]

/-- Neither `n` nor `!`: a text of such characters carries no negation marker. -/
def clean (c : Nat) : Bool := c != 110 && c != 33

theorem clean_ne {l : Str} (h : l.all clean = true) : ∀ c ∈ l, c ≠ 110 ∧ c ≠ 33 := by
  intro c hc
  have := List.all_eq_true.mp h c hc
  simpa [clean] using this

theorem fchar_clean {l : Str} (h : l.all fchar = true) : l.all clean = true := by
  rw [List.all_eq_true] at *
  intro c hc
  have := fchar_ne (h c hc)
  simp [clean, this.1, this.2.2.1]

theorem ws_clean {l : Str} (h : l.all isSpace = true) : l.all clean = true := by
  rw [List.all_eq_true] at *
  intro c hc
  have := isSpace_iff.mp (h c hc)
  simp only [clean, Bool.and_eq_true, bne_iff_ne]
  omega

theorem body_clean {k : Key} {X : Str} (h : Body k X) : X.all clean = true := fchar_clean (body_fchar h)

theorem body_nonspace {k : Key} {X : Str} (h : Body k X) : ∃ c ∈ X, isSpace c = false := by
  obtain ⟨a, T, b, rfl, _, _, hT⟩ := h
  obtain ⟨c, r, rfl, hc⟩ := hT.hd
  exact ⟨c, by simp, hc⟩

theorem flag_none (L : Str) (h : L.all clean = true) : carries' L = false := by
  have hs : ∀ x ∈ strip L, x ≠ 110 ∧ x ≠ 33 := fun x hx => clean_ne h x (lstrip_mem _ x (rstrip_mem _ x hx))
  unfold carries'
  have h1 := searchNot1_pass (strip L) [] fun x hx => (hs x hx).1
  have h2 := searchNot2_pass (strip L) [] (fun x hx => (hs x hx).1) (by simp)
  rw [List.append_nil] at h1 h2
  rw [hasNotWs_eq, hasWsNot_eq, h1, h2, searchNot1, searchNot2]
  cases hh : strip L with
  | nil => rfl
  | cons a t =>
    have := (hs a (by rw [hh]; exact List.mem_cons_self)).2
    simp [this]

theorem word_cases {w : SpWord} (h : w.ok = true) :
    (lower w.word = sNot ∨ lower w.word = sIs) ∧ w.ws.all isSpace = true ∧ w.ws ≠ [] := by
  simp only [SpWord.ok, Bool.and_eq_true, Bool.or_eq_true, beq_iff_eq, Bool.not_eq_true'] at h
  refine ⟨h.1.1, h.1.2, ?_⟩
  intro e
  rw [e] at h
  simp at h

theorem flat_all (l : List SpWord) (f : SpWord → Str) (p : Nat → Bool) (h : ∀ w ∈ l, (f w).all p = true) :
    (l.flatMap f).all p = true := by
  rw [List.all_flatMap, List.all_eq_true]
  exact h

theorem flat_clean (l : List SpWord) (f : SpWord → Str) (h : ∀ w ∈ l, (lower (f w)).all clean = true) :
    (lower (l.flatMap f)).all clean = true := by
  rw [lower, List.map_flatMap]
  exact flat_all l _ clean h

theorem word_clean {w : SpWord} (h : w.ok = true) (hn : w.isNot = false) :
    (lower (w.word ++ w.ws)).all clean = true ∧ (lower (w.ws ++ w.word)).all clean = true := by
  obtain ⟨h1, h2, _⟩ := word_cases h
  have hw : (lower w.word).all clean = true := by
    rcases h1 with h1 | h1
    · simp [SpWord.isNot, h1] at hn
    · rw [h1]; rfl
  simp [lower_append, List.all_append, hw, lower_ws h2, ws_clean h2]

/-- **The flag of a spaced decoration.** Around a text whose lower-casing has no `n`, no `!` and a non-blank
character, the property's clause gives exactly the flag the decoration carries: `!`, a prefix `not<ws>`
or a suffix `<ws>not`. -/
theorem spaced_flag (d : Spaced) (hd : d.ok = true) {R : Str} (hR : (lower R).all clean = true)
    (hns : ∃ x ∈ lower R, isSpace x = false) : carriesNeg (renderSpaced d R) = d.neg := by
  simp only [Spaced.ok, Bool.and_eq_true] at hd
  obtain ⟨⟨⟨⟨hL, hRr⟩, hb⟩, hpre⟩, hpost⟩ := hd
  obtain ⟨x, hx, hxs⟩ := hns
  rw [carriesNeg_eq]
  unfold renderSpaced Spaced.before Spaced.after Spaced.neg
  cases hbang : d.bang with
  | some w =>
    simp only [lower_append, lower_cons, lower_ws hL, List.append_assoc, List.cons_append]
    exact flag_bang hL _
  | none =>
    simp only [List.append_nil, Option.isSome_none, Bool.false_or]
    by_cases h1 : d.pre.any SpWord.isNot = true
    · obtain ⟨w, hw, hn⟩ := List.any_eq_true.mp h1
      obtain ⟨s, t, e⟩ := List.append_of_mem hw
      obtain ⟨_, hws, hne⟩ := word_cases (List.all_eq_true.mp hpre w hw)
      have hN : lower w.word = sNot := by simpa [SpWord.isNot] using hn
      obtain ⟨c, ws', hcw⟩ := List.exists_cons_of_ne_nil hne
      have hc : isSpace c = true := List.all_eq_true.mp hws c (hcw ▸ List.mem_cons_self)
      have hlw : lower w.ws = c :: ws' := by rw [lower_ws hws, hcw]
      rw [h1, e]
      simp only [List.flatMap_append, List.flatMap_cons, lower_append, hN, hlw]
      have := flag_not1 (lower d.outerL ++ lower (s.flatMap fun w => w.word ++ w.ws))
        (ws' ++ (lower (t.flatMap fun w => w.word ++ w.ws) ++ (lower R ++
          (lower (d.post.flatMap fun w => w.ws ++ w.word) ++ lower d.outerR)))) hc ⟨x, by simp [hx], hxs⟩
      simpa [List.append_assoc] using this
    · by_cases h2 : d.post.any SpWord.isNot = true
      · obtain ⟨w, hw, hn⟩ := List.any_eq_true.mp h2
        obtain ⟨s, t, e⟩ := List.append_of_mem hw
        obtain ⟨_, hws, hne⟩ := word_cases (List.all_eq_true.mp hpost w hw)
        have hN : lower w.word = sNot := by simpa [SpWord.isNot] using hn
        rcases List.eq_nil_or_concat w.ws with h0 | ⟨ws', c, hcw⟩
        · exact absurd h0 hne
        · rw [List.concat_eq_append] at hcw
          have hc : isSpace c = true := List.all_eq_true.mp hws c (hcw ▸ by simp)
          have hlw : lower w.ws = ws' ++ [c] := by rw [lower_ws hws, hcw]
          rw [h2, e]
          simp only [List.flatMap_append, List.flatMap_cons, lower_append, hN, hlw]
          have := flag_not2 (lower d.outerL ++ (lower (d.pre.flatMap fun w => w.word ++ w.ws) ++ (lower R ++
            (lower (s.flatMap fun w => w.ws ++ w.word) ++ ws'))))
            (lower (t.flatMap fun w => w.ws ++ w.word) ++ lower d.outerR) hc ⟨x, by simp [hx], hxs⟩
          simpa [List.append_assoc] using this
      · have h1' : d.pre.any SpWord.isNot = false := by simpa using h1
        have h2' : d.post.any SpWord.isNot = false := by simpa using h2
        rw [h1', h2']
        apply flag_none
        have hp := fun w hw => (word_clean (List.all_eq_true.mp hpre w hw)
          (by simpa using List.any_eq_false.mp h1' w hw)).1
        have hq := fun w hw => (word_clean (List.all_eq_true.mp hpost w hw)
          (by simpa using List.any_eq_false.mp h2' w hw)).2
        simp only [lower_append, List.all_append, flat_clean _ _ hp, flat_clean _ _ hq, hR, lower_ws hL, lower_ws hRr,
          ws_clean hL, ws_clean hRr, Bool.and_self]

theorem lowerC_eq_letter {a c : Nat} (hc : 97 ≤ c ∧ c ≤ 122) (h : lowerC a = c) : a = c ∨ a = c - 32 := by
  unfold lowerC at h
  split at h <;> omega

theorem lowerC_deco {a : Nat}
    (h : lowerC a = 110 ∨ lowerC a = 111 ∨ lowerC a = 116 ∨ lowerC a = 105 ∨ lowerC a = 115) :
    decoChar a = true := by
  rcases h with h | h | h | h | h <;> rcases lowerC_eq_letter (by decide) h with rfl | rfl <;> rfl

theorem ws_deco {l : Str} (h : l.all isSpace = true) : l.all decoChar = true := by
  rw [List.all_eq_true] at *
  intro c hc
  simp [decoChar, h c hc]

theorem word_deco {w : SpWord} (h : w.ok = true) :
    (w.word ++ w.ws).all decoChar = true ∧ (w.ws ++ w.word).all decoChar = true := by
  obtain ⟨a, b, _⟩ := word_cases h
  have ha : w.word.all decoChar = true := by
    rw [List.all_eq_true]
    intro x hx
    have hm : lowerC x ∈ lower w.word := List.mem_map_of_mem hx
    apply lowerC_deco
    rcases a with a | a <;> (rw [a] at hm; simp [sNot, sIs] at hm; omega)
  simp [List.all_append, ha, ws_deco b]

theorem spaced_deco (d : Spaced) (hd : d.ok = true) :
    d.before.all decoChar = true ∧ d.after.all decoChar = true := by
  simp only [Spaced.ok, Bool.and_eq_true] at hd
  obtain ⟨⟨⟨⟨hL, hRr⟩, hb⟩, hpre⟩, hpost⟩ := hd
  have hp := fun w hw => (word_deco (List.all_eq_true.mp hpre w hw)).1
  have hq := fun w hw => (word_deco (List.all_eq_true.mp hpost w hw)).2
  constructor
  · unfold Spaced.before
    cases hh : d.bang with
    | none =>
      simp only [List.append_nil]
      rw [List.all_append, ws_deco hL, flat_all _ _ _ hp]; rfl
    | some w =>
      rw [hh] at hb
      simp only at hb ⊢
      rw [List.all_append, List.all_append, ws_deco hL, flat_all _ _ _ hp, List.all_cons, ws_deco hb]; rfl
  · unfold Spaced.after
    rw [List.all_append, flat_all _ _ _ hq, ws_deco hRr]; rfl

theorem KeyDict.spaced_render {nm : List (Codes × Codes)} (hnm : KeyDict nm) {k : Key} (hk : k ∈ allKeys)
    {R : Str} (hR : Body k (lower R)) (d : Spaced) (hd : d.ok = true) :
    normalize nm (renderSpaced d R) = some (k.codes, d.neg) := by
  obtain ⟨h1, h2⟩ := spaced_deco d hd
  have := hnm.spaced_body hk hR h1 h2
  rw [← spaced_flag d hd (body_clean hR) (body_nonspace hR)]
  exact this

theorem reach_not_ws {W : Str} (h : W.all isSpace = true) (X : Str) :
    reach (sNotSp ++ (W ++ X)) = reach (sNotSp ++ X) := by
  have hn : ∀ Y : Str, negation (sNotSp ++ Y) = (replaceAll sNotSp [] 0 Y, true) := by
    intro Y
    simp [negation, sNotSp, searchNot1, sNot, List.isPrefixOf, isSpace, replaceAll]
  have hW : ∀ c ∈ W, c ≠ 110 := fun c hc => (clean_ne (ws_clean h) c hc).1
  unfold reach strip
  rw [hn, hn, raNotSp_pass W X hW]
  simp only [lstrip_ws_app h]

theorem reach_bang_ws {W : Str} (h : W.all isSpace = true) (X : Str) : reach (33 :: (W ++ X)) = reach (33 :: X) := by
  unfold reach strip
  rw [negation_bang, negation_bang]
  simp only [lstrip_ws_app h]

/-- `not` occurs nowhere in the text. -/
def noNot : Str → Bool
  | [] => true
  | c :: t => !sNot.isPrefixOf (c :: t) && noNot t

/-- A name has no outer blank, no `not`, no leading `!`, and goes through `strip` and the `is` stage
unchanged (also the name `is`). -/
theorem alias_shape {n : Codes} {k : Key} (h : (n, k) ∈ aliases) :
    tight n = true ∧ noNot n = true ∧ n.head? ≠ some 33 ∧ subIs none 0 (strip n) = n := by
  have table : aliases.all (fun p =>
      tight p.1 && noNot p.1 && p.1.head? != some 33 && subIs none 0 (strip p.1) == p.1) = true := by
    decide +kernel
  simpa only [Bool.and_eq_true, beq_iff_eq, bne_iff_ne, and_assoc] using List.all_eq_true.mp table (n, k) h

theorem tight_pre {c0 : Nat} {X : Str} {A : Str} (hc0 : isSpace c0 = false) (hX : tight X = true) :
    tight (c0 :: (A ++ X)) = true := by
  obtain ⟨c, r, ys, d, rfl, e, _, hd⟩ := tight_iff.mp hX
  exact tight_iff.mpr ⟨c0, A ++ c :: r, c0 :: (A ++ ys), d, rfl, by simp [e], hc0, hd⟩

theorem KeyDict.name_not_spaced {nm : List (Codes × Codes)} (hnm : KeyDict nm) (n : Codes) (k : Key)
    (h : (n, k) ∈ aliases) {w ws ws' wN W : Str} (hw : lower w = n) (hN : lower wN = sNot)
    (hws : ws.all isSpace = true) (hws' : ws'.all isSpace = true) (hW : W.all isSpace = true) :
    normalize nm (ws ++ wN ++ 32 :: W ++ w ++ ws') = some (k.codes, true) := by
  have row := (nameRow_of (pre := sNotSp) (post := []) (neg := true) (by decide +kernel) h).2
  rw [List.append_nil] at row
  have := hnm.name_of_reach h (tight_pre (c0 := 110) (A := 111 :: 116 :: 32 :: W) rfl (alias_shape h).1)
    ((reach_not_ws hW n).trans row) (u := wN ++ 32 :: W ++ w)
    (by simp [lower_append, lower_cons, hN, hw, lower_ws hW, sNot, lowerC]) hws hws'
  simpa [List.append_assoc] using this

theorem KeyDict.name_bang_spaced {nm : List (Codes × Codes)} (hnm : KeyDict nm) (n : Codes) (k : Key)
    (h : (n, k) ∈ aliases) {w ws ws' W : Str} (hw : lower w = n) (hws : ws.all isSpace = true)
    (hws' : ws'.all isSpace = true) (hW : W.all isSpace = true) :
    normalize nm (ws ++ 33 :: W ++ w ++ ws') = some (k.codes, true) := by
  have row := (nameRow_of (pre := [33]) (post := []) (neg := true) (by decide +kernel) h).2
  rw [List.append_nil] at row
  have := hnm.name_of_reach h (tight_pre (c0 := 33) (A := W) rfl (alias_shape h).1)
    ((reach_bang_ws hW n).trans row) (u := 33 :: W ++ w)
    (by simp [lower_append, lower_cons, hw, lower_ws hW, lowerC]) hws hws'
  simpa [List.append_assoc] using this

theorem space_ne {z : Nat} (h : isSpace z = true) : z ≠ 110 ∧ z ≠ 111 ∧ z ≠ 116 := by
  rw [isSpace_iff] at h
  omega

theorem isPrefix_sNot_app (t' : Str) (z0 : Nat) (Z' : Str) (hz : isSpace z0 = true) :
    sNot.isPrefixOf (t' ++ z0 :: Z') = sNot.isPrefixOf t' :=
  isPrefixOf_append_of_not_mem (by obtain ⟨h0, h1, h2⟩ := space_ne hz; simp [sNot, h0, h1, h2]) t' Z'

theorem noNot_head {t : Str} (h : noNot t = true) : sNot.isPrefixOf t = false := by
  cases t with
  | nil => rfl
  | cons d t' =>
    simp only [noNot, Bool.and_eq_true, Bool.not_eq_true'] at h
    exact h.1

theorem searchNot1_noNot (n : Str) (hn : noNot n = true) (z0 : Nat) (Z' : Str) (hz : isSpace z0 = true) :
    searchNot1 (n ++ z0 :: Z') = searchNot1 (z0 :: Z') := by
  induction n with
  | nil => rfl
  | cons c t ih =>
    have h1 := noNot_head hn
    simp only [noNot, Bool.and_eq_true, Bool.not_eq_true'] at hn
    have h2 := isPrefix_sNot_app (c :: t) z0 Z' hz
    rw [h1] at h2
    rw [List.cons_append, searchNot1, ← List.cons_append, h2, ih hn.2]
    rfl

theorem raSpNot_noNot (n : Str) (hn : noNot n = true) (z0 : Nat) (Z' : Str) (hz : isSpace z0 = true) :
    replaceAll sSpNot [] 0 (n ++ z0 :: Z') = n ++ replaceAll sSpNot [] 0 (z0 :: Z') := by
  induction n with
  | nil => rfl
  | cons c t ih =>
    simp only [noNot, Bool.and_eq_true, Bool.not_eq_true'] at hn
    have hp : sSpNot.isPrefixOf (c :: (t ++ z0 :: Z')) = false := by
      have : sSpNot.isPrefixOf (c :: (t ++ z0 :: Z')) = ((32 == c) && sNot.isPrefixOf (t ++ z0 :: Z')) := by
        simp [sSpNot, sNot, List.isPrefixOf]
      rw [this, isPrefix_sNot_app t z0 Z' hz, noNot_head hn.2]
      simp
    rw [List.cons_append]
    simp only [replaceAll, hp, Bool.false_eq_true, if_false]
    rw [ih hn.2]
    rfl

theorem raSpNot_tail (X : Str) (h : ∀ c ∈ X, c ≠ 110) : replaceAll sSpNot [] 0 (X ++ sSpNot) = X :=
  (ra_pass₂ X sSpNot h (by decide)).trans (List.append_nil X)

def nameOk (p : Codes × Key) : Bool :=
  tight p.1 && noNot p.1 && p.1.head? != some 33 && finish names p.1 true == some (p.2.codes, true)

theorem aliases_nameOk : aliases.all nameOk = true := by
  rw [List.all_eq_true]
  intro p hp
  obtain ⟨h1, h2, h3, h4⟩ := alias_shape (n := p.1) (k := p.2) hp
  have : finish names p.1 true = some (p.2.codes, true) := by
    rw [finish_eq, h4]
    exact lookup_hit (names_keyDict.alias p hp) _
  simp [nameOk, h1, h2, h3, this]

theorem KeyDict.name_not_suffix_spaced {nm : List (Codes × Codes)} (hnm : KeyDict nm) (n : Codes) (k : Key)
    (h : (n, k) ∈ aliases) {w ws ws' wN W : Str} (hw : lower w = n) (hN : lower wN = sNot)
    (hws : ws.all isSpace = true) (hws' : ws'.all isSpace = true) (hW : W.all isSpace = true) :
    normalize nm (ws ++ w ++ W ++ 32 :: wN ++ ws') = some (k.codes, true) := by
  obtain ⟨htight, hnn, hbang, hsub⟩ := alias_shape h
  have hWn : ∀ c ∈ W, c ≠ 110 := fun c hc => (clean_ne (ws_clean hW) c hc).1
  obtain ⟨c, r, _, _, hn, _, hc, _⟩ := tight_iff.mp htight
  have hX : tight (n ++ (W ++ sSpNot)) = true :=
    tight_iff.mpr ⟨c, r ++ (W ++ sSpNot), n ++ W ++ [32, 110, 111], 116, by simp [hn], by simp [sSpNot], hc, rfl⟩
  -- the text after the name starts with a white-space character
  obtain ⟨z0, Z', hZ, hz⟩ : ∃ z0 Z', W ++ sSpNot = z0 :: Z' ∧ isSpace z0 = true := by
    cases W with
    | nil => exact ⟨32, [110, 111, 116], rfl, rfl⟩
    | cons a W' =>
      simp only [List.all_cons, Bool.and_eq_true] at hW
      exact ⟨a, W' ++ sSpNot, rfl, hW.1⟩
  have hneg : negation (n ++ (W ++ sSpNot)) = (n ++ W, true) := by
    have hb : ∀ t, n ++ (W ++ sSpNot) ≠ 33 :: t := by
      intro t e
      rw [hn] at e hbang
      simp only [List.cons_append, List.cons.injEq] at e
      exact hbang (by simp [e.1])
    have s1 : searchNot1 (n ++ (W ++ sSpNot)) = false := by
      rw [hZ, searchNot1_noNot n hnn z0 Z' hz, ← hZ, searchNot1_pass W sSpNot hWn]
      rfl
    have s2 : searchNot2 (n ++ (W ++ sSpNot)) = true := by
      have := searchNot2_mid (n ++ W) [] (c := 32) rfl
      simpa [sSpNot, sNot, List.append_assoc] using this
    have r2 : replaceAll sSpNot [] 0 (n ++ (W ++ sSpNot)) = n ++ W := by
      rw [hZ, raSpNot_noNot n hnn z0 Z' hz, ← hZ, raSpNot_tail W hWn]
    unfold negation
    split
    · rename_i t e; exact absurd e (hb t)
    · rw [s1, s2, r2]; rfl
  have hr : reach (n ++ (W ++ sSpNot)) = (n, true) := by
    have e1 : strip (n ++ W) = n := by simpa using strip_tight (ws := []) (ws' := W) rfl hW htight
    have e2 : strip n = n := by simpa using strip_tight (ws := []) (ws' := []) rfl rfl htight
    rw [e2] at hsub
    unfold reach
    rw [hneg]
    simp only [e1, hsub]
  have := hnm.name_of_reach h hX hr (u := w ++ W ++ 32 :: wN)
    (by simp [lower_append, lower_cons, lower_ws hW, hN, hw, sNot, sSpNot, lowerC]) hws hws'
  simpa [List.append_assoc] using this

end Paroxy.NP
