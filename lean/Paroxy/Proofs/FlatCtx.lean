/-
The hashed text of an expression depends only on the expression up to its load/store context.
-/
import Paroxy.Proofs.FlatHash
import Paroxy.Proofs.FlatEntries
namespace Paroxy.Flat

theorem dumpNoCtx_stripCtx_all :
    (∀ v, dumpNoCtx (stripCtx v) = dumpNoCtx v) ∧
    (∀ fs ty first, dumpNoCtxFields ty first (stripCtxFields fs) = dumpNoCtxFields ty first fs) ∧
    (∀ xs first, dumpNoCtxItems first (stripCtxItems xs) = dumpNoCtxItems first xs) := by
  refine Val.induction ?_ ?_ ?_ ?_ ?_ ?_ ?_
  · exact fun ty e r ln fs ih => congrArg (fun X => ty ++ '(' :: X ++ [')']) (ih ty true)
  · exact fun q xs ih => congrArg (fun X => '[' :: X ++ [']']) (ih true)
  · exact fun _ _ => rfl
  · exact fun _ _ => rfl
  · intro n v rest hv hr ty first
    by_cases hn : (n == cs!"ctx") = true
    · simp only [stripCtxFields, dumpNoCtxFields, hn, if_true, Bool.true_or]
      exact hr ty first
    · have hn' : (n == cs!"ctx") = false := by simpa using hn
      have hnone : isNoneScalar (stripCtx v) = isNoneScalar v := by cases v <;> rfl
      simp only [stripCtxFields, hn', Bool.false_eq_true, if_false, dumpNoCtxFields, Bool.false_or, hnone,
        hv, hr ty first, hr ty false]
  · exact fun _ => rfl
  · intro v rest hv hr first
    simp only [stripCtxItems, dumpNoCtxItems, hv, hr false]

theorem dumpNoCtxFields_stripCtx (ty : Str) : ∀ (first : Bool) (fs : List (Str × Val)),
    dumpNoCtxFields ty first (stripCtxFields fs) = dumpNoCtxFields ty first fs :=
  fun first fs => dumpNoCtx_stripCtx_all.2.1 fs ty first
theorem dumpNoCtxItems_stripCtx : ∀ (first : Bool) (xs : List Val),
    dumpNoCtxItems first (stripCtxItems xs) = dumpNoCtxItems first xs :=
  fun first xs => dumpNoCtx_stripCtx_all.2.2 xs first

theorem isNoneScalar_of_sameShape {v1 v2 : Val} (h : sameShape v1 v2 = true) :
    isNoneScalar v1 = isNoneScalar v2 := by
  -- two scalars of the same shape have the same repr; no other value is `None`
  cases v1 <;> cases v2 <;> first | rfl | exact absurd h Bool.false_ne_true | exact congrArg (· == _) (beq_iff_eq.mp h)

theorem dumpNoCtx_of_sameShape_all :
    (∀ a b, sameShape a b = true → dumpNoCtx a = dumpNoCtx b) ∧
    (∀ f1 f2 ty first, sameShapeFields f1 f2 = true →
      dumpNoCtxFields ty first f1 = dumpNoCtxFields ty first f2) ∧
    (∀ x1 x2 first, sameShapeItems x1 x2 = true →
      dumpNoCtxItems first x1 = dumpNoCtxItems first x2) := by
  refine Val.induction ?_ ?_ ?_ ?_ ?_ ?_ ?_
  · intro t1 _ _ _ f1 ih b h
    cases b with
    | node t2 _ _ _ f2 =>
      obtain ⟨ht, hf⟩ := Bool.and_eq_true_iff.mp h
      rw [beq_iff_eq.mp ht]
      exact congrArg (fun X => t2 ++ '(' :: X ++ [')']) (ih f2 t2 true hf)
    | _ => nomatch h
  · intro _ x1 ih b h
    cases b with
    | list _ x2 => exact congrArg (fun X => '[' :: X ++ [']']) (ih x2 true h)
    | _ => nomatch h
  · intro r1 _ b h
    cases b with
    | scalar r2 _ => exact beq_iff_eq.mp h
    | _ => nomatch h
  · intro f2 ty first h
    cases f2 with
    | nil => rfl
    | cons => nomatch h
  · intro n1 v1 r1 hv hr f2 ty first h
    cases f2 with
    | nil => nomatch h
    | cons p r2 =>
      obtain ⟨n2, v2⟩ := p
      obtain ⟨hnv, hrest⟩ := Bool.and_eq_true_iff.mp h
      obtain ⟨hn, hvv⟩ := Bool.and_eq_true_iff.mp hnv
      show (if n1 == cs!"ctx" || (isNoneScalar v1 && !keepsNone ty n1) then dumpNoCtxFields ty first r1
        else _ ++ n1 ++ '=' :: dumpNoCtx v1 ++ dumpNoCtxFields ty false r1) = _
      rw [beq_iff_eq.mp hn, isNoneScalar_of_sameShape hvv, hv v2 hvv, hr r2 ty first hrest, hr r2 ty false hrest]
      rfl
  · intro x2 first h
    cases x2 with
    | nil => rfl
    | cons => nomatch h
  · intro v1 r1 hv hr x2 first h
    cases x2 with
    | nil => nomatch h
    | cons v2 r2 =>
      obtain ⟨hvv, hrest⟩ := Bool.and_eq_true_iff.mp h
      show _ ++ dumpNoCtx v1 ++ dumpNoCtxItems false r1 = _
      rw [hv v2 hvv, hr r2 false hrest]
      rfl

theorem dumpNoCtxFields_of_sameShape (ty : Str) : ∀ (first : Bool) (f1 f2 : List (Str × Val)),
    sameShapeFields f1 f2 = true → dumpNoCtxFields ty first f1 = dumpNoCtxFields ty first f2 :=
  fun first f1 f2 => dumpNoCtx_of_sameShape_all.2.1 f1 f2 ty first

theorem dumpNoCtxItems_of_sameShape : ∀ (first : Bool) (x1 x2 : List Val),
    sameShapeItems x1 x2 = true → dumpNoCtxItems first x1 = dumpNoCtxItems first x2 :=
  fun first x1 x2 => dumpNoCtx_of_sameShape_all.2.2 x1 x2 first

theorem dumpNoCtx_of_sameUpToCtx {a b : Val} (h : sameUpToCtx a b = true) : dumpNoCtx a = dumpNoCtx b := by
  rw [← dumpNoCtx_stripCtx_all.1 a, ← dumpNoCtx_stripCtx_all.1 b]
  exact dumpNoCtx_of_sameShape_all.1 _ _ h

theorem reprsAreDumps_of_at {v w : Val} {q : List Nat} {ns : List Str} (h : At v q ns w) :
    reprsAreDumps v = true → reprsAreDumps w = true :=
  h.descendB (g := fun f => reprsAreDumps f.2) (fun hv => (Bool.and_eq_true_iff.mp hv).2)
    (fun _ _ => rfl) id id (fun _ _ => rfl)

theorem repr_eq_dumpNoCtx_of_at {t : Val} {p : List Nat} {ty r : Str} {ln : Option Nat} {fs : List (Str × Val)}
    (hd : reprsAreDumps t = true) (h : t.at? p = some (.node ty true r ln fs)) :
    r = dumpNoCtx (.node ty true r ln fs) := by
  obtain ⟨ns, hn⟩ := at_exists h
  have e := reprsAreDumps_of_at hn hd
  simp only [reprsAreDumps, Bool.not_true, Bool.false_or, Bool.and_eq_true, beq_iff_eq] at e
  exact e.1

end Paroxy.Flat
