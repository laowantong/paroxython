/-
C15: `simplify_negative_literals` as a tree-level tweak. At a `UnaryOp` the pass searches the following lines for
the `USub` line and then for the `n` line of the operand; the induction is that of `backport_all_constants`
(lines `R` after the dump, `RCond`).
-/
import Paroxy.Proofs.FlatBackport
namespace Paroxy.Flat

theorem neg_keep {l : Str} (L : List Str) (h : unaryMark.isSuffixOf l = false) :
    simplifyNegativeLiterals (l :: L) = l :: simplifyNegativeLiterals L := by
  rw [simplifyNegativeLiterals]; simp [stripSuffix?, h]

theorem firstIdx_none {p : Str → Bool} : ∀ {A : List Str}, (∀ x ∈ A, p x = false) → firstIdx p A = none
  | [], _ => rfl
  | a :: A, h => by
    simp [firstIdx, h a (by simp), firstIdx_none (fun x hx => h x (List.mem_cons_of_mem _ hx))]

theorem firstIdx_append_cons {p : Str → Bool} {y : Str} (B : List Str) (hy : p y = true) :
    ∀ (A : List Str), (∀ x ∈ A, p x = false) → firstIdx p (A ++ y :: B) = some A.length
  | [], _ => by simp [firstIdx, hy]
  | a :: A, h => by
    simp [firstIdx, h a (by simp), firstIdx_append_cons B hy A (fun x hx => h x (List.mem_cons_of_mem _ hx))]

theorem unaryMark_eq : unaryMark = tyKey ++ '=' :: cs!"UnaryOp" := rfl

/-- The two searches of the pass in a text `A ++ u :: (B ++ n :: R)` without empty line: `u` is the first line
satisfying `pu`, `n` the first line after it satisfying `pn`; the text splits there. -/
theorem two_searches {pu pn : Str → Bool} {A B R : List Str} {u n : Str}
    (hne : ∀ l ∈ A ++ u :: (B ++ n :: R), l ≠ []) (hu : pu u = true) (hA : ∀ a ∈ A, pu a = false)
    (hn : pn n = true) (hB : ∀ b ∈ B, pn b = false) :
    firstIdx pu (nonEmptyRun (A ++ u :: (B ++ n :: R))) = some A.length ∧
      firstIdx pn ((nonEmptyRun (A ++ u :: (B ++ n :: R))).drop (A.length + 1)) = some B.length ∧
      (A ++ u :: (B ++ n :: R)).getD (A.length + 1 + B.length) [] = n ∧
      (A ++ u :: (B ++ n :: R)).take A.length = A ∧
      (A ++ u :: (B ++ n :: R)).drop (A.length + 1 + B.length + 1) = R := by
  obtain ⟨-, htake, hdrop1⟩ := cut_at_length A u (B ++ n :: R) rfl
  have hsplit : A ++ u :: (B ++ n :: R) = (A ++ u :: B) ++ n :: R := by simp
  obtain ⟨hget, -, hdrop⟩ := cut_at_length (A ++ u :: B) n R (j := A.length + 1 + B.length) (by simp; omega)
  rw [← hsplit] at hget hdrop
  rw [nonEmptyRun_eq hne, hdrop1]
  exact ⟨firstIdx_append_cons _ hu A hA, firstIdx_append_cons _ hn B hB, hget, htake, hdrop⟩

theorem neg_nomatch (pre : Str) (L : List Str)
    (hL : (∀ l ∈ L, l ≠ pre ++ cs!"/op/_type=USub") ∨ (∀ l ∈ L, ¬ (pre ++ cs!"/operand/n=") <+: l)) :
    simplifyNegativeLiterals (typeLine pre cs!"UnaryOp" :: L) =
      typeLine pre cs!"UnaryOp" :: simplifyNegativeLiterals L := by
  have hrun : ∀ x ∈ nonEmptyRun L, x ∈ L := fun x hx => (List.takeWhile_sublist _).subset hx
  rw [simplifyNegativeLiterals]
  simp only [strip_typeMark_self unaryMark_eq pre]
  rcases hL with hL | hL
  · rw [firstIdx_none fun x hx => beq_eq_false_iff_ne.mpr (hL x (hrun x hx))]
  · cases firstIdx (fun x => x == pre ++ cs!"/op/_type=USub") (nonEmptyRun L) with
    | none => rfl
    | some k =>
      simp only [firstIdx_none fun x hx =>
        startsWithMore_of_not_prefix (hL x (hrun x (List.mem_of_mem_drop hx)))]

/-- The block of a `-literal`: type line, own lines `A`, the `USub` line, lines `B` (type / hash /
position of the operand), the `n` line, then the rest. -/
theorem neg_block (pre rv : Str) (A B R L : List Str)
    (hL : L = A ++ (pre ++ cs!"/op/_type=USub") :: (B ++ ((pre ++ cs!"/operand/n=") ++ rv) :: R)) (hrv : rv ≠ [])
    (hA : ∀ a ∈ A, a ≠ [] ∧ a ≠ pre ++ cs!"/op/_type=USub")
    (hB : ∀ b ∈ B, b ≠ [] ∧ ¬ (pre ++ cs!"/operand/n=") <+: b)
    (hR : ∀ l ∈ R, l ≠ []) :
    simplifyNegativeLiterals (typeLine pre cs!"UnaryOp" :: L) =
      typeLine pre cs!"Num" :: (A ++ [pre ++ cs!"/n=-" ++ rv] ++ simplifyNegativeLiterals R) := by
  obtain ⟨h1, h2, hget, htake, hdrop⟩ := two_searches (pu := fun x => x == pre ++ cs!"/op/_type=USub")
    (pn := startsWithMore (pre ++ cs!"/operand/n=")) (A := A) (B := B) (R := R)
    (n := (pre ++ cs!"/operand/n=") ++ rv)
    (List.forall_mem_append.mpr ⟨fun l hl => (hA l hl).1, List.forall_mem_cons.mpr ⟨by simp,
      List.forall_mem_append.mpr ⟨fun l hl => (hB l hl).1, List.forall_mem_cons.mpr ⟨by simp, hR⟩⟩⟩⟩)
    (beq_self_eq_true _) (fun a ha => beq_eq_false_iff_ne.mpr (hA a ha).2) (startsWithMore_append hrv)
    (fun b hb => startsWithMore_of_not_prefix (hB b hb).2)
  rw [simplifyNegativeLiterals, hL]
  simp only [strip_typeMark_self unaryMark_eq pre, h1, h2, hget, htake, hdrop]
  rw [List.drop_left]
  simp [typeLine]

theorem not_prefix_of_prefix {p a b l : Str} (h : (p ++ a) <+: l) (hab : ¬ a <+: b) (hba : ¬ b <+: a) :
    ¬ (p ++ b) <+: l := fun hb =>
  (List.prefix_or_prefix_of_prefix h hb).elim (fun h' => hab ((List.prefix_append_right_inj p).mp h'))
    (fun h' => hba ((List.prefix_append_right_inj p).mp h'))

theorem unaryOk_cases {fs : List (Str × Val)} (h : unaryOk fs = true) :
    ∃ t1 r1 t2 e2 r2 ln2 fs2, fs = [(cs!"op", .node t1 false r1 none []), (cs!"operand", .node t2 e2 r2 ln2 fs2)] ∧
      ((t1 == cs!"USub") = false ∨
        ((t1 == cs!"USub") = true ∧ ∃ rv k, fs2 = [(cs!"n", .scalar rv k)] ∧ rv ≠ []) ∨
        ((t1 == cs!"USub") = true ∧ cs!"n" ∉ fs2.map (·.1))) := by
  unfold unaryOk at h
  split at h
  · next n1 t1 e1 r1 ln1 fs1 n2 t2 e2 r2 ln2 fs2 =>
    simp only [Bool.and_eq_true, Bool.or_eq_true, Bool.not_eq_true', beq_iff_eq, List.isEmpty_iff,
      Option.isNone_iff_eq_none] at h
    obtain ⟨⟨⟨⟨⟨rfl, rfl⟩, rfl⟩, rfl⟩, rfl⟩, hrest⟩ := h
    refine ⟨t1, r1, t2, e2, r2, ln2, fs2, rfl, ?_⟩
    cases ht : (t1 == cs!"USub") with
    | false => exact Or.inl rfl
    | true =>
      rcases hrest with hrest | hrest
      · exact absurd ht (by simp [hrest])
      · right
        split at hrest
        · next n3 rv k =>
          simp only [Bool.or_eq_true, Bool.and_eq_true, beq_iff_eq, Bool.not_eq_true', List.isEmpty_eq_false_iff,
            beq_eq_false_iff_ne] at hrest
          rcases hrest with ⟨rfl, hrv⟩ | hne
          · exact Or.inl ⟨rfl, rv, k, rfl, hrv⟩
          · exact Or.inr ⟨rfl, by simpa using fun e => hne e.symm⟩
        · exact Or.inr ⟨rfl, by simpa using hrest⟩
  · cases h

theorem onlyN_none {t2 : Str} {e2 : Bool} {r2 : Str} {ln2 : Option Nat} {fs2 : List (Str × Val)}
    (h : cs!"n" ∉ fs2.map (·.1)) : onlyN (.node t2 e2 r2 ln2 fs2) = none := by
  match fs2, h with
  | [], _ => rfl
  | [(n3, .scalar rv k)], h =>
    have : (n3 == cs!"n") = false := beq_eq_false_iff_ne.mpr fun e => h (by simp [e])
    simp [onlyN, this]
  | [(n3, .node _ _ _ _ _)], _ => rfl
  | [(n3, .list _ _)], _ => rfl
  | _ :: _ :: _, _ => simp [onlyN]

theorem length_foldNegItems : ∀ xs : List Val, (foldNegItems xs).length = xs.length
  | [] => rfl
  | x :: xs => by simp [foldNegItems, length_foldNegItems xs]

mutual
theorem neg_dumpP (h : Str → Str) (hh : HashNoEq h) : ∀ (v : Val) (pre path : Str) (R : List Str),
    '=' ∉ pre → '=' ∉ path → wfNeg pre v = true → RCond pre R →
    simplifyNegativeLiterals (dumpP h pre path v ++ R) =
      dumpP h pre path (foldNeg v) ++ simplifyNegativeLiterals R
  | .node ty e r ln fs, pre, path, R, hpre, hpath, hwf, hR => by
    simp only [wfNeg, Bool.and_eq_true] at hwf
    obtain ⟨⟨⟨⟨hty0, hnames⟩, hnodup⟩, hun⟩, hfs⟩ := hwf
    have hty : '=' ∉ ty := by simpa using hty0
    have ih := neg_dumpPFields h hh fs pre path 0 R hpre hpath hnames (by simpa using hnodup) hfs hR
    rw [dumpP_node_eq, List.cons_append, List.append_assoc]
    generalize hL : hpLines h pre path e r ln ++ (dumpPFields h pre path 0 fs ++ R) = L
    -- once the type line is kept, the own lines are kept and the fields are rewritten one by one
    have generic : negShape ty fs = none →
        simplifyNegativeLiterals (typeLine pre ty :: L) = typeLine pre ty :: simplifyNegativeLiterals L →
        simplifyNegativeLiterals (typeLine pre ty :: L) =
          dumpP h pre path (foldNeg (.node ty e r ln fs)) ++ simplifyNegativeLiterals R := by
      intro hshape hkeep
      simp only [foldNeg, hshape]
      rw [dumpP_node_eq, hkeep, ← hL, keep_block (fun _ L => neg_keep L) _ _
        ((typeMark_keyEnds unaryMark_eq).hpLines (by decide) (by decide) hh r hpre hpath e ln), ih,
        List.cons_append, List.append_assoc]
    cases hc : (ty == cs!"UnaryOp") with
    | false =>
      exact generic (by simp [negShape, hc])
        (neg_keep _ (typeMark_typeLine unaryMark_eq hpre hty (by simpa using hc)))
    | true =>
      obtain rfl := beq_iff_eq.mp hc
      rw [hc] at hun
      simp only [if_true] at hun
      obtain ⟨t1, r1, t2, e2, r2, ln2, fs2, rfl, hcase⟩ := unaryOk_cases hun
      -- the lines of the two fields: the operator line, then the dump of the operand
      have hF : dumpPFields h pre path 0 [(cs!"op", Val.node t1 false r1 none []), (cs!"operand", Val.node t2 e2 r2 ln2 fs2)] =
          (pre ++ cs!"/op/_type=" ++ t1) ::
            dumpP h (subPre pre cs!"operand") (subPath path 1) (.node t2 e2 r2 ln2 fs2) := by
        simp [dumpPFields, dumpP_node_eq, hpLines, typeLine, subPre]
      rw [hF] at hL
      have hA := ownLines_prefix h pre path cs!"UnaryOp" e r ln
      have hO := under_dumpP h (.node t2 e2 r2 ln2 fs2) (subPre pre cs!"operand") (subPath path 1)
      -- the type, hash and position lines of the operand do not start with its `n` key
      have hB : ∀ b ∈ typeLine (subPre pre cs!"operand") t2 :: hpLines h (subPre pre cs!"operand") (subPath path 1) e2 r2 ln2,
          b ≠ [] ∧ ¬ (pre ++ cs!"/operand/n=") <+: b := fun b hb =>
        have hp := ownLines_prefix h _ _ t2 e2 r2 ln2 b hb
        ⟨fun e' => by simp [e'] at hp, by
          simpa [subPre] using not_prefix_of_prefix (b := cs!"/n=") hp (by decide) (by decide)⟩
      have hAU : ∀ a ∈ hpLines h pre path e r ln, a ≠ pre ++ cs!"/op/_type=USub" := fun a ha e' =>
        not_prefix_of_prefix (b := cs!"/op/_type=USub") (hA a (List.mem_cons_of_mem _ ha)) (by decide) (by decide)
          (by rw [e']; exact List.prefix_refl _)
      rcases hcase with ht1 | ⟨ht1, rv, k, rfl, hrv⟩ | ⟨ht1, hnon⟩
      · -- another operator: the `USub` line is nowhere
        refine generic (by simp [negShape, isUSubNode, ht1]) (neg_nomatch pre _ (Or.inl ?_))
        rw [← hL, List.cons_append]
        refine List.forall_mem_append.mpr ⟨hAU, List.forall_mem_cons.mpr ⟨fun e' => ?_,
          List.forall_mem_append.mpr ⟨fun l hl e' => ?_, fun l hl e' => ?_⟩⟩⟩
        · have : t1 = cs!"USub" := by simpa using e'
          rw [this] at ht1; simp at ht1
        · exact not_prefix_of_under_sibling (c := '/') (Or.inl rfl) (by decide : nameOk cs!"op" = true)
            (by decide : nameOk cs!"operand" = true) (by decide) (hO l hl)
            ⟨cs!"_type=USub", by rw [e']; simp [subPre]⟩
        · exact hR.not_prefix cs!"op/_type=USub" l hl (by rw [e']; exact List.prefix_refl _)
      · obtain rfl := beq_iff_eq.mp ht1
        refine (neg_block pre rv (hpLines h pre path e r ln)
          (typeLine (subPre pre cs!"operand") t2 :: hpLines h (subPre pre cs!"operand") (subPath path 1) e2 r2 ln2) R L ?_ hrv
          (fun a ha => ⟨hpLines_ne_nil h pre path e r ln a ha, hAU a ha⟩) hB (fun l hl => (hR l hl).1)).trans ?_
        · rw [← hL, dumpP_node_eq]; simp [dumpPFields, dumpP, scalarLine, subPre]
        · simp [foldNeg, negShape, isUSubNode, onlyN, dumpP_node_eq, dumpPFields, dumpP, scalarLine, subPre]
      · -- `USub` without a literal operand: no line starts with the `n` key
        refine generic (by simp [negShape, isUSubNode, ht1, onlyN_none hnon]) (neg_nomatch pre _ (Or.inr ?_))
        have hnames2 : (fs2.map (·.1)).all nameOk = true := by
          simp only [wfNegFields, wfNeg, Bool.and_eq_true] at hfs
          exact hfs.2.1.1.1.1.2
        have hF2 := RCond.field h (c := '=') (n := cs!"n") (Or.inr rfl) (subPath path 1) 0 (by decide) hnames2 hnon
          (hR.sub cs!"operand" '/')
        rw [← hL, dumpP_node_eq, List.cons_append, List.cons_append, List.append_assoc (hpLines h _ _ e2 r2 ln2),
          ← List.cons_append]
        exact List.forall_mem_append.mpr
          ⟨fun l hl => not_prefix_of_prefix (hA l (List.mem_cons_of_mem _ hl)) (by decide) (by decide),
            List.forall_mem_cons.mpr
              ⟨not_prefix_of_prefix (a := cs!"/op/") ⟨cs!"_type=" ++ t1, by simp⟩ (by decide) (by decide),
                List.forall_mem_append.mpr ⟨fun l hl => (hB l hl).2, fun l hl => by simpa [subPre] using (hF2 l hl).2⟩⟩⟩
  | .list q xs, pre, path, R, hpre, hpath, hwf, hR => by
    rw [foldNeg, dumpP, dumpP, length_foldNegItems, List.append_assoc, List.append_assoc,
      ← neg_dumpPItems h hh xs pre path 1 R hpre hpath hwf hR]
    exact keep_block (fun _ L => neg_keep L) _ _ ((typeMark_keyEnds unaryMark_eq).lengthLines (by decide) q _ hpre)
  | .scalar r k, pre, path, R, _, _, hwf, _ => by
    simp only [wfNeg, Bool.not_eq_true'] at hwf
    simp only [dumpP, foldNeg, List.cons_append, List.nil_append]
    exact neg_keep _ hwf
theorem neg_dumpPFields (h : Str → Str) (hh : HashNoEq h) :
    ∀ (fs : List (Str × Val)) (pre path : Str) (i : Nat) (R : List Str),
    '=' ∉ pre → '=' ∉ path → (fs.map (·.1)).all nameOk = true → (fs.map (·.1)).Nodup →
    wfNegFields pre fs = true → RCond pre R →
    simplifyNegativeLiterals (dumpPFields h pre path i fs ++ R) =
      dumpPFields h pre path i (foldNegFields fs) ++ simplifyNegativeLiterals R
  | [], _, _, _, _, _, _, _, _, _, _ => rfl
  | (n, v) :: rest, pre, path, i, R, hpre, hpath, hnames, hnd, hwf, hR => by
    simp only [wfNegFields, Bool.and_eq_true] at hwf
    simp only [List.map_cons, List.all_cons, Bool.and_eq_true] at hnames
    simp only [List.map_cons, List.nodup_cons] at hnd
    have ih := neg_dumpPFields h hh rest pre path (i + 1) R hpre hpath hnames.2 hnd.2 hwf.2 hR
    have hv := neg_dumpP h hh v (subPre pre n) (subPath path i) _ (eq_not_mem_subPre hpre (nameOk_iff.mp hnames.1).1)
      (eq_not_mem_subPath i hpath) hwf.1 (RCond.field h (Or.inl rfl) path (i + 1) hnames.1 hnames.2 hnd.1 hR)
    simp only [dumpPFields, foldNegFields, List.append_assoc]
    rw [hv, ih]
theorem neg_dumpPItems (h : Str → Str) (hh : HashNoEq h) :
    ∀ (xs : List Val) (pre path : Str) (i : Nat) (R : List Str),
    '=' ∉ pre → '=' ∉ path → wfNegItems pre i xs = true → RCond pre R →
    simplifyNegativeLiterals (dumpPItems h pre path i xs ++ R) =
      dumpPItems h pre path i (foldNegItems xs) ++ simplifyNegativeLiterals R
  | [], _, _, _, _, _, _, _, _ => rfl
  | v :: rest, pre, path, i, R, hpre, hpath, hwf, hR => by
    simp only [wfNegItems, Bool.and_eq_true] at hwf
    have ih := neg_dumpPItems h hh rest pre path (i + 1) R hpre hpath hwf.2 hR
    have hv := neg_dumpP h hh v (subPre pre (dec i)) (subPath path i) _ (eq_not_mem_subPre hpre (eq_not_mem_dec i))
      (eq_not_mem_subPath i hpath) hwf.1 (RCond.item h path i rest hR)
    simp only [dumpPItems, foldNegItems, List.append_assoc]
    rw [hv, ih]
end

end Paroxy.Flat
