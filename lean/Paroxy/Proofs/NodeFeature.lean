/-
What the `node` matcher does on the lines of a dump: only a type line offers a candidate (`typeSplits`), and at the
type line of a positioned node the lazy part of the pattern stops at the node's own `_pos` line
(`nodeMatches_entry`). Then `pos_to_span` on a position text.
-/
import Paroxy.Proofs.FlatStr
import Paroxy.Proofs.FlatPath
import Paroxy.Spec.NodeFeature
namespace Paroxy.Flat

theorem nodeMatches_cons_nosplit {l : Str} (rest : List Str) (h : typeSplits l = []) :
    nodeMatches (l :: rest) = nodeMatches rest := by
  rw [nodeMatches, nodeMatchAt, h]; rfl

theorem not_contains_iff {s : Str} {c : Char} : (!s.contains c) = true ↔ c ∉ s := by
  simp

/-- A line `pre ++ key ++ "=" ++ V` whose key (at least as long as `_type`) does not end with `_type` and whose
value has no `=`: the `_hash`, `_length` and `_pos` lines of a dump. -/
theorem typeSplits_keyLine {pre key V : Str} (hpre : '=' ∉ pre) (hkey : '=' ∉ key) (hlen : 5 ≤ key.length)
    (hk : ¬ cs!"_type" <:+ key) (hV : '=' ∉ V) : typeSplits ((pre ++ key) ++ '=' :: V) = [] := by
  refine typeSplits_keyval (fun h => (List.mem_append.mp h).elim hpre hkey) (fun h => hk ?_)
    (hasInfix_false_of_not_mem (c := '=') (by decide) hV)
  exact List.suffix_of_suffix_length_le ((List.suffix_cons '/' _).trans h) (List.suffix_append pre key) hlen

theorem typeSplits_hashLine {pre hx : Str} (hpre : '=' ∉ pre) (hhx : '=' ∉ hx) :
    typeSplits (hashLine pre hx) = [] := by
  rw [hashLine_keyval]; exact typeSplits_keyLine hpre (by decide) (by decide) (by decide) hhx

theorem typeSplits_lengthLine {pre : Str} (n : Nat) (hpre : '=' ∉ pre) :
    typeSplits (lengthLine pre n) = [] := by
  rw [lengthLine_keyval]; exact typeSplits_keyLine hpre (by decide) (by decide) (by decide) (eq_not_mem_dec n)

theorem not_mem_posText {c : Char} (hc : c.isDigit = false) (hd : c ≠ '-') (hcol : c ≠ ':') (n : Nat)
    (addr : List Nat) : c ∉ posText n addr := fun h =>
  (List.mem_append.mp h).elim (not_mem_dec hc n) fun h => (List.mem_cons.mp h).elim hcol
    fun h => not_mem_encPath hc hd addr (List.mem_of_mem_drop h)

/-- The `_pos` line of the node at `addr`, as key and value. -/
theorem posLine_eq (pre : Str) (n : Nat) (addr : List Nat) :
    posLine pre n (encPath addr) = (pre ++ cs!"/_pos") ++ '=' :: posText n addr :=
  posLine_keyval pre (encPath addr) n

theorem typeSplits_posLine {pre : Str} (n : Nat) (addr : List Nat) (hpre : '=' ∉ pre) :
    typeSplits (posLine pre n (encPath addr)) = [] := by
  rw [posLine_eq]
  exact typeSplits_keyLine hpre (by decide) (by decide) (by decide) (not_mem_posText rfl (by decide) (by decide) n addr)

/-- On a key line `pre/w=X` (`w` a word) the optional group `\w+/` of the pattern finds nothing: only `_pos=` right
after the slash can match. -/
theorem firstPos_keyLine (pre w X : Str) (hw : ∀ c ∈ w, isWordC c = true) :
    firstPos? pre (pre ++ '/' :: (w ++ '=' :: X)) =
      if (cs!"_pos=").isPrefixOf (w ++ '=' :: X) && (cs!"_pos=").length < (w ++ '=' :: X).length
      then some ((w ++ '=' :: X).drop (cs!"_pos=").length) else none := by
  have hp : (pre ++ ['/']).isPrefixOf (pre ++ '/' :: (w ++ '=' :: X)) = true :=
    List.isPrefixOf_iff_prefix.mpr ⟨_, by rw [List.append_assoc]; rfl⟩
  have hd : (pre ++ '/' :: (w ++ '=' :: X)).drop (pre.length + 1) = w ++ '=' :: X := by
    rw [List.append_cons]; exact List.drop_left' (List.length_append.trans rfl)
  unfold firstPos?
  rw [if_pos hp, hd]
  have ht : (w ++ '=' :: X).takeWhile isWordC = w := by
    rw [List.takeWhile_append_of_pos hw]; exact List.append_nil w
  simp only [ht, List.drop_left]
  rw [show (cs!"/_pos=").isPrefixOf ('=' :: X) = false from rfl, Bool.and_false, Bool.false_and,
    if_neg Bool.false_ne_true]

theorem firstPos_posLine (pre X : Str) (hX : X ≠ []) :
    firstPos? pre ((pre ++ cs!"/_pos") ++ '=' :: X) = some X := by
  have hl : (pre ++ cs!"/_pos") ++ '=' :: X = pre ++ '/' :: (cs!"_pos" ++ '=' :: X) := List.append_assoc ..
  obtain ⟨hc, hd⟩ := (prefixMore_iff (p := cs!"_pos=") (l := cs!"_pos" ++ '=' :: X)).mpr ⟨rfl, hX⟩
  rw [hl, firstPos_keyLine pre _ X (by decide), if_pos hc, hd]

theorem firstPos_hashLine (pre hx : Str) : firstPos? pre (hashLine pre hx) = none := by
  have hl : hashLine pre hx = pre ++ '/' :: (cs!"_hash" ++ '=' :: hx) := List.append_assoc ..
  rw [hl, firstPos_keyLine pre _ hx (by decide)]
  rfl

/-- The lazy loop skips the `_hash` line: it string-starts with the prefix. -/
theorem startsWithMore_hashLine (pre hx : Str) : startsWithMore pre (hashLine pre hx) = true := by
  simp [startsWithMore, hashLine, List.isPrefixOf_iff_prefix]

theorem posText_ne_nil (n : Nat) (addr : List Nat) : posText n addr ≠ [] :=
  fun h => dec_ne_nil n (List.append_eq_nil_iff.mp h).1

theorem nodeMatchAt_typeLine (pre ty : Str) (rest : List Str) (hpre : '=' ∉ pre) (hty : '=' ∉ ty)
    (hne : ty ≠ []) : nodeMatchAt (typeLine pre ty :: rest) = nodeTry pre ty rest := by
  obtain ⟨hm, hall⟩ := typeSplits_typeLine hpre hty hne
  rw [nodeMatchAt, firstSome_of_all_eq _ (pre, ty) _ (List.ne_nil_of_mem hm) hall]

/-- After a type line, the lazy loop skips the `_hash` line (if any) and stops at the node's own `_pos` line. -/
theorem findFirstPos_own (h : Str → Str) (pre r : Str) (isE : Bool) (n : Nat) (addr : List Nat) (rest : List Str) :
    findFirstPos pre ((if isE then [hashLine pre (h r)] else []) ++ [posLine pre n (encPath addr)] ++ rest) =
      some (posText n addr, rest) := by
  have hp : firstPos? pre (posLine pre n (encPath addr)) = some (posText n addr) := by
    rw [posLine_eq]; exact firstPos_posLine pre _ (posText_ne_nil n addr)
  cases isE with
  | false => simp [findFirstPos, hp]
  | true => simp [findFirstPos, hp, firstPos_hashLine, startsWithMore_hashLine]

theorem Entry.ok_pre {e : Entry} (h : e.ok = true) : '=' ∉ encNames e.names :=
  not_contains_iff.mp (Bool.and_eq_true_iff.mp h).1

theorem positionedOfEntries_eq (es : List Entry) : positionedOfEntries es = es.filterMap fun e =>
    match e.item with
    | .node ty _ _ (some n) => some (ty, n)
    | _ => none := by
  induction es with
  | nil => rfl
  | cons e es ih =>
    obtain ⟨addr, names, item⟩ := e
    rcases item with ⟨ty, isE, r, _ | n⟩ | _ | _
    · exact ih
    · exact congrArg (_ :: ·) ih
    · exact ih
    · exact ih

theorem positionedOfEntries_app (a b : List Entry) :
    positionedOfEntries (a ++ b) = positionedOfEntries a ++ positionedOfEntries b := by
  simp only [positionedOfEntries_eq, List.filterMap_append]

theorem positionedOfEntries_suffix_cons (e : Entry) (es : List Entry) :
    positionedOfEntries es <:+ positionedOfEntries (e :: es) := by
  rw [positionedOfEntries_eq, positionedOfEntries_eq, List.filterMap_cons]
  split
  · exact List.suffix_refl _
  · exact List.suffix_cons _ _

theorem mem_positionedOfEntries {ty r : Str} {isE : Bool} {n : Nat} {es : List Entry} {e : Entry} (he : e ∈ es)
    (hi : e.item = .node ty isE r (some n)) : (ty, n) ∈ positionedOfEntries es := by
  rw [positionedOfEntries_eq]
  exact List.mem_filterMap.mpr ⟨e, he, by rw [hi]⟩

theorem Entry.posStart_eq_some {e : Entry} {s : Str × Str} (h : e.posStart = some s) :
    ∃ ty isE r n, e.item = .node ty isE r (some n) ∧ s = (ty, posText n e.addr) := by
  obtain ⟨addr, names, item⟩ := e
  rcases item with ⟨ty, isE, r, _ | n⟩ | _ | _
  all_goals cases h
  exact ⟨ty, isE, r, n, rfl, rfl⟩

/-- The matches that start on the lines of one well-formed entry, seen through the positioned-type filter `P`:
only a positioned node gives one; it captures the node's own position text and then what `findLastPos` finds,
under the node's prefix, in the lines that follow. -/
theorem nodeMatches_entry (h : Str → Str) (hh : HashNoEq h) (P : Str → Bool) (e : Entry)
    (hok : e.ok = true) (hty : e.typed P = true) (R : List Str) :
    ∃ MS, nodeMatches (e.lines h ++ R) = MS ++ nodeMatches R ∧
      MS.filter (fun m => P m.1) =
        (e.posStart.map fun s => (s.1, s.2 :: (findLastPos (encNames e.names) R).toList)).toList := by
  have hpre := Entry.ok_pre hok
  obtain ⟨addr, names, item⟩ := e
  cases item with
  | node ty isE r ln =>
    obtain ⟨hty1, hty2⟩ : '=' ∉ ty ∧ ty ≠ [] := by simpa [Entry.ok] using (Bool.and_eq_true_iff.mp hok).2
    -- after the type line, the node's own lines offer no candidate
    have hskip : ∀ R, nodeMatches ((if isE then [hashLine (encNames names) (h r)] else []) ++ R) = nodeMatches R := by
      intro R
      cases isE with
      | false => rfl
      | true => exact nodeMatches_cons_nosplit _ (typeSplits_hashLine hpre (hh r))
    cases ln with
    | some n =>
      have hP : P ty = true := hty
      refine ⟨[(ty, posText n addr :: (findLastPos (encNames names) R).toList)], ?_, by simp [hP, Entry.posStart]⟩
      rw [show Entry.lines h ⟨addr, names, .node ty isE r (some n)⟩ ++ R = typeLine (encNames names) ty ::
          ((if isE then [hashLine (encNames names) (h r)] else []) ++ [posLine (encNames names) n (encPath addr)] ++ R)
          by simp [Entry.lines],
        nodeMatches, nodeMatchAt_typeLine (encNames names) ty _ hpre hty1 hty2, nodeTry, findFirstPos_own,
        List.append_assoc, hskip, List.singleton_append, nodeMatches_cons_nosplit _ (typeSplits_posLine n addr hpre)]
      dsimp only
      cases findLastPos (encNames names) R <;> rfl
    | none =>
      have hP : P ty = false := by simpa [Entry.typed] using hty
      refine ⟨(nodeMatchAt (typeLine (encNames names) ty ::
        ((if isE then [hashLine (encNames names) (h r)] else []) ++ R))).toList, ?_, ?_⟩
      · rw [show Entry.lines h ⟨addr, names, .node ty isE r none⟩ ++ R = typeLine (encNames names) ty ::
          ((if isE then [hashLine (encNames names) (h r)] else []) ++ R) by simp [Entry.lines], nodeMatches, hskip]
        cases nodeMatchAt _ <;> rfl
      · -- whatever is found, it carries the type of the line
        rw [nodeMatchAt_typeLine (encNames names) ty _ hpre hty1 hty2, nodeTry]
        cases findFirstPos (encNames names) _ with
        | none => rfl
        | some pr =>
          dsimp only
          cases findLastPos (encNames names) pr.2 <;> simp [hP, Entry.posStart]
  | list q n =>
    refine ⟨[], ?_, rfl⟩
    cases q with
    | true => rfl
    | false => exact nodeMatches_cons_nosplit _ (typeSplits_lengthLine n hpre)
  | scalar r =>
    obtain ⟨h2, h3⟩ : ¬ tyKey <:+ encNames names ∧ hasInfix tyMark r = false := by
      simpa [Entry.ok, ← List.isSuffixOf_iff_suffix] using (Bool.and_eq_true_iff.mp hok).2
    exact ⟨[], nodeMatches_cons_nosplit _ (typeSplits_keyval hpre h2 h3), rfl⟩

theorem nodeStarts_entry (h : Str → Str) (hh : HashNoEq h) (P : Str → Bool) (e : Entry)
    (hok : e.ok = true) (hty : e.typed P = true) (R : List Str) :
    (nodeStarts (e.lines h ++ R)).filter (fun x => P x.1) =
      e.posStart.toList ++ (nodeStarts R).filter (fun x => P x.1) := by
  obtain ⟨MS, h1, h2⟩ := nodeMatches_entry h hh P e hok hty R
  have hf : ∀ l : List (Str × List Str), (l.filterMap fun m => m.2.head?.map fun p => (m.1, p)).filter (fun x => P x.1) =
      (l.filter fun m => P m.1).filterMap fun m => m.2.head?.map fun p => (m.1, p) := by
    intro l
    rw [List.filter_filterMap, List.filterMap_filter]
    congr 1; funext m
    cases m.2.head? <;> cases hm : P m.1 <;> simp [hm]
  rw [nodeStarts, h1, List.filterMap_append, List.filter_append, hf, h2]
  cases e.posStart <;> rfl

theorem splitColon_of_not_mem : ∀ (b : Str), ':' ∉ b → splitColon b = [b]
  | [], _ => rfl
  | c :: t, h => by
    have hc : c ≠ ':' := fun e => h (by simp [e])
    have ht : ':' ∉ t := fun e => h (List.mem_cons_of_mem _ e)
    simp [splitColon, splitColon_of_not_mem t ht, hc]

theorem splitColon_append : ∀ (a b : Str), ':' ∉ a → splitColon (a ++ ':' :: b) = a :: splitColon b
  | [], b, _ => by
    cases hb : splitColon b with
    | nil => simp [splitColon, hb]
    | cons x xs => simp [splitColon, hb]
  | c :: t, b, h => by
    have hc : c ≠ ':' := fun e => h (by simp [e])
    have ht : ':' ∉ t := fun e => h (List.mem_cons_of_mem _ e)
    simp [splitColon, splitColon_append t b ht, hc]

theorem parseNat_dec (n : Nat) : parseNat? (dec n) = some n := by
  unfold parseNat?
  have h1 : (dec n).isEmpty = false := by
    cases h : dec n with
    | nil => exact absurd h (dec_ne_nil n)
    | cons _ _ => rfl
  simp only [h1, all_isDigitC_dec n, Bool.not_false, Bool.and_self, if_true, Option.some.injEq]
  have := @Nat.ofDigitChars_ten_toDigits n
  simpa [Nat.ofDigitChars, dec] using this

theorem colon_not_mem_posPath (p : List Nat) : ':' ∉ posPath p :=
  fun h => not_mem_encPath rfl (by decide) p (List.mem_of_mem_drop h)

theorem parsePos_dec_colon (n : Nat) {p : Str} (hp : ':' ∉ p) : parsePos? (dec n ++ ':' :: p) = some (n, p) := by
  simp [parsePos?, splitColon_append _ _ (colon_not_mem_dec n), splitColon_of_not_mem _ hp, parseNat_dec]

theorem parsePos_posText (n : Nat) (addr : List Nat) : parsePos? (posText n addr) = some (n, posPath addr) :=
  parsePos_dec_colon n (colon_not_mem_posPath addr)

end Paroxy.Flat
