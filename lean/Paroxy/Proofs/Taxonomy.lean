/-
Refinement of the translation state machine (`Taxo.call`, with its memo and the aliasing of the
literal lists) to the specification `Spec.Taxo.translate`, for every oracle and every call history;
the accumulation loop of `to_taxa`; the meaning of `is_literal`.
-/
import Paroxy.Spec.Taxonomy
import Paroxy.Spec.TaxonomyDefault
import Paroxy.Proofs.Bag
namespace Paroxy.TaxoProofs
open Paroxy Paroxy.Taxo Paroxy.Spec.Taxo

theorem dget_isLookup {β : Type} : Assoc.IsLookup (dget (β := β)) none some := ⟨fun _ => rfl, fun _ _ _ _ => rfl⟩

theorem dset_isUpdate {β : Type} (v : β) : Assoc.IsUpdate (fun d k => dset d k v) fun _ => v :=
  ⟨fun _ => rfl, fun _ _ _ _ => rfl⟩

theorem dget_dset {β : Type} (d : List (Str × β)) (k x : Str) (v : β) :
    dget (dset d k v) x = if k = x then some v else dget d x :=
  (dset_isUpdate v).get dget_isLookup d k x

/-- The taxon patterns of the literal rows whose label pattern is `L`, in table order. -/
def litMatches (rows : List Row) (L : Str) : List Str :=
  ((litRows rows).filter fun r => decide (r.2 = L)).map Prod.fst

theorem litMatches_cons (r : Row) (t : List Row) (L : Str) :
    litMatches (r :: t) L = if isLiteral r.2 = true ∧ r.2 = L then r.1 :: litMatches t L
      else litMatches t L := by
  unfold litMatches litRows
  by_cases h2 : r.2 = L
  · subst h2; by_cases h1 : isLiteral r.2 = true <;> simp [h1]
  · by_cases h1 : isLiteral r.2 = true <;> simp [h1, h2]

/-- What `literal_labels.get(L)` holds before any translation. -/
def literal0 (rows : List Row) (L : Str) : Option (List Str) :=
  if litMatches rows L = [] then none else some (litMatches rows L)

/-- The entry `a` of `literal_labels` extended by the taxa `l`; `a` itself when `l = []`. -/
def combine (a : Option (List Str)) (l : List Str) : Option (List Str) :=
  if l = [] then a else some (a.getD [] ++ l)

theorem foldl_addRow (rows : List Row) :
    ∀ st : State,
      (rows.foldl addRow st).compiled = st.compiled ++ rxRows rows ∧
      (rows.foldl addRow st).memo = st.memo ∧
      ∀ L, dget (rows.foldl addRow st).literal L = combine (dget st.literal L) (litMatches rows L) := by
  induction rows with
  | nil => intro st; simp [rxRows, litMatches, litRows, combine]
  | cons r t ih =>
    intro st
    obtain ⟨h1, h2, h3⟩ := ih (addRow st r)
    simp only [List.foldl_cons]
    refine ⟨?_, ?_, ?_⟩
    · rw [h1]; unfold addRow rxRows
      by_cases hl : isLiteral r.2 = true <;> simp [hl]
    · rw [h2]; unfold addRow; split <;> rfl
    · intro L
      rw [h3, litMatches_cons]
      unfold addRow
      by_cases hl : isLiteral r.2 = true
      · simp only [hl, if_true, true_and, dget_dset]
        by_cases hL : r.2 = L
        · subst hL
          simp only [if_true, combine]
          by_cases hm : litMatches t r.2 = [] <;> simp [hm]
        · simp [hL]
      · simp [hl]

/-- The invariant of an instance: rows compiled once; a literal list not yet translated is still
what `__init__` built; every memo entry — owned, or aliasing the literal list — is the
specification's translation. -/
structure MemoOK (o : Oracle) (rows : List Row) (st : State) : Prop where
  compiled : st.compiled = rxRows rows
  fresh : ∀ L, dget st.memo L = none → dget st.literal L = literal0 rows L
  own : ∀ L l, dget st.memo L = some (.own l) → l = translate o rows L
  alias : ∀ L, dget st.memo L = some .alias → dget st.literal L = some (translate o rows L)

theorem init_ok (o : Oracle) (rows : List Row) : MemoOK o rows (init rows) := by
  obtain ⟨h1, h2, h3⟩ := foldl_addRow rows ⟨[], [], []⟩
  have h2 : (init rows).memo = [] := h2
  refine ⟨by simpa [init] using h1, fun L _ => ?_, by simp [h2, dget], by simp [h2, dget]⟩
  rw [init, h3 L]
  simp [literal0, combine, dget]

theorem translate_not_looks (o : Oracle) (rows : List Row) (L : Str) (h : o.looks L = false) :
    translate o rows L = litMatches rows L ++ (rxRows rows).filterMap fun r => o.full r L := by
  simp [translate, translateSplit, h, litMatches]

/-- Filing an answer for `L` in the memo, the literal lists unchanged elsewhere, keeps the invariant
when the answer — owned, or the literal list of `L` itself — is the translation of `L`. -/
theorem MemoOK.set {o : Oracle} {rows : List Row} {st : State} (h : MemoOK o rows st) (L : Str)
    (v : MemoVal) (lit : List (Str × List Str))
    (hlit : ∀ L', ¬ L = L' → dget lit L' = dget st.literal L')
    (hown : ∀ l, v = .own l → l = translate o rows L)
    (halias : v = .alias → dget lit L = some (translate o rows L)) :
    MemoOK o rows { st with literal := lit, memo := dset st.memo L v } where
  compiled := h.compiled
  fresh L' hL' := by
    rw [dget_dset] at hL'
    split at hL'
    · cases hL'
    · next hne => rw [hlit L' hne]; exact h.fresh L' hL'
  own L' l hL' := by
    rw [dget_dset] at hL'
    split at hL'
    · next heq => subst heq; exact hown l (Option.some.inj hL')
    · exact h.own L' l hL'
  alias L' hL' := by
    rw [dget_dset] at hL'
    split at hL'
    · next heq => subst heq; exact halias (Option.some.inj hL')
    · next hne => rw [hlit L' hne]; exact h.alias L' hL'

theorem call_ok (o : Oracle) (rows : List Row) (st : State) (h : MemoOK o rows st) (L : Str) :
    (call o st L).2 = translate o rows L ∧ MemoOK o rows (call o st L).1 := by
  unfold call
  cases hm : dget st.memo L with
  | some v =>
    cases v with
    | own l => exact ⟨h.own L l hm, h⟩
    | alias => simp only; rw [h.alias L hm]; exact ⟨rfl, h⟩
  | none =>
    simp only
    by_cases hl : o.looks L = true
    · simp only [hl, if_true]
      have ht : translate o rows L = [L] := by simp [translate, translateSplit, hl]
      exact ⟨ht.symm, h.set L _ st.literal (fun _ _ => rfl) (fun l hl => by cases hl; exact ht.symm) nofun⟩
    · have hl' : o.looks L = false := by simpa using hl
      simp only [hl', Bool.false_eq_true, if_false]
      have hfresh := h.fresh L hm
      have ht := translate_not_looks o rows L hl'
      rw [← h.compiled] at ht
      unfold literal0 at hfresh
      split at hfresh
      · next hnil =>
        rw [hfresh]
        exact ⟨by rw [ht, hnil]; rfl, h.set L _ st.literal (fun _ _ => rfl)
          (fun l hl => by cases hl; rw [ht, hnil]; rfl) nofun⟩
      · rw [hfresh]
        exact ⟨ht.symm, h.set L .alias _ (fun L' hne => by simp only [dget_dset, hne, if_false])
          nofun fun _ => by simp only [dget_dset, if_true, ht]⟩

theorem run_ok (o : Oracle) (rows : List Row) (hist : List Str) :
    ∀ st, MemoOK o rows st → run o st hist = hist.map (translate o rows) := by
  induction hist with
  | nil => intro st _; rfl
  | cons L t ih =>
    intro st h
    obtain ⟨h1, h2⟩ := call_ok o rows st h L
    simp only [run, List.map_cons, h1, ih _ h2]

theorem mem_translate (o : Oracle) (rows : List Row) (L x : Str) :
    x ∈ translate o rows L ↔
      (o.looks L = true ∧ x = L) ∨
      (o.looks L = false ∧ ∃ r ∈ rows, rowResult o r L = some x) := by
  unfold translate translateSplit litRows rxRows rowResult
  by_cases hl : o.looks L = true
  · simp [hl]
  · have hl' : o.looks L = false := by simpa using hl
    simp only [hl', Bool.false_eq_true, if_false, List.mem_append, List.mem_map, List.mem_filter,
      List.mem_filterMap, false_and, false_or, true_and, decide_eq_true_eq, Bool.not_eq_true']
    rw [← exists_or]
    refine exists_congr fun r => ?_
    cases hlit : isLiteral r.2
    · simp
    · by_cases hP : r.2 = L
      · subst hP; simp
      · simp [hP]

/-- A character `regex.escape` leaves alone, or a dot. -/
def plainOrDot (c : Char) : Bool :=
  c == '.' || (!(metachars.contains c || isSpace c) && !(c == '\x00'))

/-- Two character-wise expansions, the second longer wherever they differ, agree on a string
exactly when they agree on each of its characters. -/
theorem flatMap_eq_flatMap_iff {α β : Type} [DecidableEq β] {f g : α → List β}
    (hlt : ∀ c, f c ≠ g c → (f c).length < (g c).length) (p : List α) :
    p.flatMap f = p.flatMap g ↔ ∀ c ∈ p, f c = g c := by
  have hle : ∀ t : List α, (t.flatMap f).length ≤ (t.flatMap g).length := fun t => by
    induction t with
    | nil => simp
    | cons c t ih =>
      simp only [List.flatMap_cons, List.length_append]
      by_cases h : f c = g c
      · rw [h]; omega
      · have := hlt c h; omega
  induction p with
  | nil => simp
  | cons c t ih =>
    simp only [List.flatMap_cons, List.mem_cons, forall_eq_or_imp, ← ih]
    constructor
    · intro h
      have hc : f c = g c := Decidable.byContradiction fun hne => by
        have := congrArg List.length h
        have := hlt c hne
        have := hle t
        simp only [List.length_append] at *
        omega
      exact ⟨hc, List.append_cancel_left (hc ▸ h)⟩
    · rintro ⟨hc, ht⟩; rw [hc, ht]

theorem escape_char (c : Char) :
    let f := if c = '.' then ['\\', '.'] else [c]
    let g := if (metachars.contains c || isSpace c) = true then ['\\', c]
      else if c = '\x00' then ['\\', '0', '0', '0'] else [c]
    (f = g ↔ plainOrDot c = true) ∧ (f ≠ g → f.length < g.length) := by
  by_cases hc : c = '.'
  · subst hc; decide
  · by_cases hs : (metachars.contains c || isSpace c) = true
    · have hp : plainOrDot c = false := by unfold plainOrDot; rw [hs]; simp [hc]
      simp only [if_neg hc, if_pos hs, hp]
      simp
    · have hs' : (metachars.contains c || isSpace c) = false := Bool.eq_false_iff.mpr hs
      by_cases h0 : c = '\x00'
      · subst h0; decide
      · have hp : plainOrDot c = true := by unfold plainOrDot; rw [hs']; simp [hc, h0]
        simp only [if_neg hc, if_neg hs, if_neg h0, hp]
        simp

theorem isLiteral_iff (p : Str) : isLiteral p = true ↔ ∀ c ∈ p, plainOrDot c = true := by
  rw [isLiteral, beq_iff_eq, replaceDots, escape, flatMap_eq_flatMap_iff fun c => (escape_char c).2]
  exact forall₂_congr fun c _ => (escape_char c).1

section Acc
variable {σ : Type} [DecidableEq σ]

/-- Count of span `s` in the bag filed under taxon `t` (0 when absent). -/
def accCount (acc : List (Str × Bag σ)) (t : Str) (s : σ) : Int :=
  Bag.count ((dget acc t).getD []) s

theorem accCount_accUpdate (acc : List (Str × Bag σ)) (t' : Str) (spans : List σ) (t : Str) (s : σ) :
    accCount (accUpdate acc t' spans) t s
      = accCount acc t s + if t' = t then ((spans.count s : Nat) : Int) else 0 := by
  unfold accCount accUpdate
  rw [dget_dset]
  by_cases h : t' = t
  · subst h; simp [Bag.count_updateList]
  · simp [h]

theorem accCount_foldl (names : List Str) (spans : List σ) (t : Str) (s : σ) :
    ∀ acc : List (Str × Bag σ),
      accCount (names.foldl (fun a t' => accUpdate a t' spans) acc) t s
        = accCount acc t s + ((mult t names * spans.count s : Nat) : Int) := by
  induction names with
  | nil => intro acc; simp [mult]
  | cons n rest ih =>
    intro acc
    simp only [List.foldl_cons]
    rw [ih, accCount_accUpdate]
    unfold mult
    by_cases h : n = t
    · subst h
      simp only [if_true, List.count_cons_self]
      rw [Nat.add_mul]; push_cast; omega
    · simp [h]

theorem accumulate_memoOK (o : Oracle) (rows : List Row) (labels : List (Str × List σ)) :
    ∀ (st : State) (acc : List (Str × Bag σ)), MemoOK o rows st →
      MemoOK o rows (accumulate o st acc labels).1 := by
  induction labels with
  | nil => intro st acc h; exact h
  | cons ls rest ih => intro st acc h; exact ih _ _ (call_ok o rows st h ls.1).2

theorem accumulate_ok (o : Oracle) (rows : List Row) (labels : List (Str × List σ)) (t : Str) (s : σ) :
    ∀ (st : State) (acc : List (Str × Bag σ)), MemoOK o rows st →
      accCount (accumulate o st acc labels).2 t s = accCount acc t s + rawCount o rows labels t s := by
  induction labels with
  | nil => intro st acc _; simp [accumulate, rawCount, rawCountT]
  | cons ls rest ih =>
    obtain ⟨L, spans⟩ := ls
    intro st acc h
    obtain ⟨h1, h2⟩ := call_ok o rows st h L
    rw [accumulate, ih _ _ h2, accCount_foldl, h1]
    simp only [rawCount, rawCountT, List.map_cons, List.sum_cons]
    omega

end Acc
/-- The states one `Taxonomy` instance can be in: after `__init__`, after any
`get_taxon_name_list` call, after the accumulation loop of any `to_taxa` call. -/
inductive Reachable (o : Oracle) (rows : List Row) : State → Prop
  | init : Reachable o rows (init rows)
  | call {st : State} (h : Reachable o rows st) (L : Str) : Reachable o rows (call o st L).1
  | toTaxa {σ : Type} [DecidableEq σ] {st : State} (h : Reachable o rows st)
      (acc : List (Str × Bag σ)) (labels : List (Str × List σ)) :
      Reachable o rows (accumulate o st acc labels).1

theorem Reachable.ok {o : Oracle} {rows : List Row} {st : State} (h : Reachable o rows st) :
    MemoOK o rows st := by
  induction h with
  | init => exact init_ok o rows
  | call _ L ih => exact (call_ok o rows _ ih L).2
  | toTaxa _ acc labels ih => exact accumulate_memoOK o rows labels _ acc ih

theorem parseTsv_of_tableOk (text : Str) (h : tableOk text = true) :
    ∃ rows, parseTsv text = .ok rows ∧ rows.Perm ((rawLines text).map parseLineD) ∧ rows.Nodup ∧
      rows ≠ [] := by
  simp only [tableOk, Bool.and_eq_true, decide_eq_true_eq, Bool.not_eq_true'] at h
  obtain ⟨⟨hall, hnd⟩, hne⟩ := h
  have hperm : (sortedLines text).Perm (rawLines text) := List.mergeSort_perm _ _
  have hall' : (sortedLines text).all okLine = true := by
    rw [List.all_eq_true] at hall ⊢
    intro x hx
    exact hall x (hperm.mem_iff.mp hx)
  have hp2 := hperm.map parseLineD
  refine ⟨(sortedLines text).map parseLineD, ?_, hp2, hp2.nodup_iff.mpr hnd, ?_⟩
  · simp [parseTsv, parseAll, hall']
  · intro h0
    have hl := hp2.length_eq
    rw [h0] at hl
    simp only [List.length_nil, List.length_map] at hl
    have : rawLines text = [] := List.eq_nil_of_length_eq_zero hl.symm
    simp [this] at hne

end Paroxy.TaxoProofs
