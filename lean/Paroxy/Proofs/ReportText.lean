/-
Lemmas about the text of the report body (Model/ReportText.lean, Spec/ReportText.lean): every line
the model writes is read back by `classify`, and the fold from the end rebuilds the structure.
-/
import Paroxy.Spec.ReportText
import Paroxy.Proofs.ReportCell
import Paroxy.Proofs.Cleanup
namespace Paroxy.ReportText
open Paroxy Paroxy.Report Paroxy.ReportCell

/- The texts of a program cost and of a row cost, the reader of a cost text, the width of the Location column. -/
variable (sc : Rat → Str) (src : Codes → Rat → Str) (rc : Str → Option Rat) (w : Nat)

theorem costOKb_spec {rc : Str → Option Rat} {txt : Str} {c : Rat} (h : costOKb rc txt c = true) :
    (∀ x ∈ txt, costChar x = true) ∧ rc txt = some c := by
  simp only [costOKb, Bool.and_eq_true, List.all_eq_true, beq_iff_eq] at h
  exact h

theorem stripPrefix_append (p x : Str) : stripPrefix p (p ++ x) = some x := by
  induction p with
  | nil => cases x <;> rfl
  | cons a t ih => simp [stripPrefix, ih]

/-- Two texts neither of which starts with the other: nothing that starts with one starts with the other. -/
theorem stripPrefix_append_none {p q : Str} (h1 : stripPrefix p q = none) (h2 : stripPrefix q p = none) (x : Str) :
    stripPrefix p (q ++ x) = none := by
  fun_induction stripPrefix p q with
  | case1 => cases h1
  | case2 => cases h2
  | case3 a p q ih =>
    rw [stripPrefix, if_pos rfl] at h2
    rw [List.cons_append, stripPrefix, if_pos rfl]
    exact ih h1 h2
  | case4 a p b q hab =>
    rw [List.cons_append, stripPrefix, if_neg hab]

theorem append_ne_of_stripPrefix_none {p l : Str} (h : stripPrefix p l = none) (x : Str) : p ++ x ≠ l := by
  intro e
  rw [← e, stripPrefix_append] at h
  cases h

theorem span_sep (p : Char → Bool) (a sep b : Str) (ha : ∀ x ∈ a, p x = true) (hs : sep.head?.map p = some false) :
    (a ++ (sep ++ b)).takeWhile p = a ∧ (a ++ (sep ++ b)).dropWhile p = sep ++ b := by
  cases sep with
  | nil => cases hs
  | cons c s =>
    have hc : ¬ p c = true := by simp [show p c = false by simpa using hs]
    rw [List.takeWhile_append_of_pos ha, List.dropWhile_append_of_pos ha, List.cons_append,
      List.takeWhile_cons_of_neg hc, List.dropWhile_cons_of_neg hc, List.append_nil]
    exact ⟨rfl, rfl⟩

theorem costChar_ne (x : Char) (h : costChar x = true) : (x != ' ') = true ∧ x ≠ '\n' := by
  refine ⟨bne_iff_ne.mpr ?_, ?_⟩ <;> (intro e; subst e; revert h; decide)

theorem readNat_nat (n : Nat) : readNat (nat n) = some n := readNat_digits n

theorem toNat_ofNat_valid {n : Nat} (h : n.isValidChar) : (Char.ofNat n).toNat = n := by
  simp [Char.ofNat, h, Char.ofNatAux, Char.toNat]

theorem chars_toNat (t : Codes) (h : ∀ n ∈ t, n.isValidChar) : (chars t).map Char.toNat = t := by
  rw [chars, List.map_map]
  conv => rhs; rw [← List.map_id t]
  exact List.map_congr_left fun n hn => toNat_ofNat_valid (h n hn)

theorem not_mem_chars {t : Codes} (h : ∀ n ∈ t, n.isValidChar) {c : Char} (hc : c.toNat ∉ t) : c ∉ chars t := by
  intro hx
  obtain ⟨n, hn, rfl⟩ := List.mem_map.mp hx
  rw [toNat_ofNat_valid (h n hn)] at hc
  exact hc hn

theorem okPath_spec {p : Codes} (h : okPath p = true) : (∀ n ∈ p, n.isValidChar) ∧ 10 ∉ p := by
  simp only [okPath, List.all_eq_true, Bool.and_eq_true, bne_iff_ne, ne_eq, decide_eq_true_eq] at h
  exact ⟨fun n hn => (h n hn).1, fun h10 => (h 10 h10).2 rfl⟩

theorem okTaxon_spec {t : Codes} (h : okTaxon t = true) : (∀ n ∈ t, n.isValidChar) ∧ 96 ∉ t ∧ 10 ∉ t := by
  simp only [okTaxon, List.all_eq_true, Bool.and_eq_true, bne_iff_ne, ne_eq, decide_eq_true_eq] at h
  exact ⟨fun n hn => (h n hn).1.1, fun h96 => (h 96 h96).1.2 rfl, fun h10 => (h 10 h10).2 rfl⟩

theorem okRow_spec {r : Row} (h : okRow r = true) : okTaxon r.taxon = true ∧ ∀ sp ∈ r.spans, 0 ≤ sp.1 ∧ 0 ≤ sp.2 := by
  simpa only [okRow, Bool.and_eq_true, List.all_eq_true, decide_eq_true_eq] using h

theorem parseBucket_text (b : Bucket) : parseBucket (bucketText b) = some b := by
  cases b with
  | pow lo =>
    have h := span_sep Char.isDigit (nat lo) commaSp (nat (2 * lo) ++ ['[']) (isDigit_digits lo) rfl
    simp only [parseBucket, parsePow, bucketText, stripPrefix_append, List.append_assoc, h.1, h.2, readNat_nat, if_true]
  | _ => decide +kernel

theorem classify_heading (b : Bucket) (n : Nat) :
    classify rc (headingLine b n) = some (.heading b n) := by
  have h := span_sep Char.isDigit (nat n) (progTxt ++ plural n ++ ofCost) (bucketText b) (isDigit_digits n) rfl
  unfold classify headingLine
  rw [stripPrefix_append_none (p := titleOpen) (q := headOpen) rfl rfl, stripPrefix_append]
  simp only [parseHeading, h.1, h.2, readNat_nat, stripPrefix_append, parseBucket_text, Option.map_some]

theorem classify_title (s : Section) (hc : costOKb rc (sc s.cost) s.cost = true)
    (hp : okPath s.path = true) : classify rc (titleLine sc s) = some (.title s.path s.cost) := by
  obtain ⟨hch, hrc⟩ := costOKb_spec hc
  -- read from the end, what follows `### Program ` is `)`, the cost, the separator, the path
  have e : (chars s.path ++ (titleMid ++ (sc s.cost ++ [')']))).reverse =
      ')' :: ((sc s.cost).reverse ++ (titleMidRev ++ (chars s.path).reverse)) := by
    simp [show titleMid.reverse = titleMidRev by decide]
  have h := span_sep (· != ' ') (sc s.cost).reverse titleMidRev (chars s.path).reverse
    (fun x hx => (costChar_ne x (hch x (List.mem_reverse.mp hx))).1) rfl
  unfold classify titleLine
  rw [stripPrefix_append]
  simp only [parseTitle, e, ↓reduceIte, h.1, h.2, stripPrefix_append, List.reverse_reverse, hrc, Option.map_some,
    chars_toNat _ (okPath_spec hp).1]

theorem classify_row (hw : 0 < w) (r : Row) (hc : costOKb rc (src r.taxon r.cost) r.cost = true)
    (hr : okRow r = true) : classify rc (rowLine src w r) = some (.row r) := by
  obtain ⟨hch, hrc⟩ := costOKb_spec hc
  obtain ⟨ht, hsp⟩ := okRow_spec hr
  obtain ⟨hv, h96, _⟩ := okTaxon_spec ht
  have h1 := span_sep (· != ' ') (src r.taxon r.cost) sep1 (chars r.taxon ++ (sep2 ++ (renderCell w r.spans ++ rowClose)))
    (fun x hx => (costChar_ne x (hch x hx)).1) rfl
  have h2 := span_sep (· != '`') (chars r.taxon) sep2 (renderCell w r.spans ++ rowClose)
    (fun x hx => bne_iff_ne.mpr fun e => not_mem_chars hv (c := '`') h96 (e ▸ hx)) rfl
  have e : (renderCell w r.spans ++ rowClose).reverse = '|' :: ' ' :: (renderCell w r.spans).reverse := by
    simp [rowClose]
  unfold classify rowLine
  -- the table header starts like a row, but its first field `Cost` is no cost text
  have hh : rowOpen ++ (src r.taxon r.cost ++ (sep1 ++ (chars r.taxon ++ (sep2 ++ (renderCell w r.spans ++ rowClose))))) ≠
      headerLine := fun eq => by
    have e' := congrArg (fun l => (l.drop 2).takeWhile (· != ' ')) eq
    simp only [rowOpen, List.cons_append, List.nil_append, List.drop_succ_cons, List.drop_zero, h1.1] at e'
    exact absurd (hch 'C' (by rw [e']; decide)) (by decide)
  rw [stripPrefix_append_none (p := titleOpen) (q := rowOpen) rfl rfl,
    stripPrefix_append_none (p := headOpen) (q := rowOpen) rfl rfl,
    if_neg (append_ne_of_stripPrefix_none (l := []) rfl _), if_neg hh,
    if_neg (append_ne_of_stripPrefix_none (l := ruleLine) rfl _),
    if_neg (append_ne_of_stripPrefix_none (l := hrLine) rfl _), stripPrefix_append]
  simp only [parseRow, h1.1, h1.2, stripPrefix_append, h2.1, h2.2, e, and_self, ↓reduceIte, List.reverse_reverse, hrc,
    parse_render w hw r.spans hsp, chars_toNat _ hv]

theorem classify_blank (rc : Str → Option Rat) : classify rc [] = some .blank := rfl
theorem classify_header : classify rc headerLine = some .header := rfl
theorem classify_rule : classify rc ruleLine = some .rule := rfl
theorem classify_hr : classify rc hrLine = some .hr := rfl

theorem step_skip {rc : Str → Option Rat} {l : Str} {k : Line} (h : classify rc l = some k)
    (hk : k = .blank ∨ k = .header ∨ k = .rule ∨ k = .hr) (s : St) : step rc l (some s) = some s := by
  rcases hk with rfl | rfl | rfl | rfl <;> simp only [step, h]

theorem step_row {rc : Str → Option Rat} {l : Str} {r : Row} (h : classify rc l = some (.row r)) (s : St) :
    step rc l (some s) = some { s with rows := r :: s.rows } := by
  simp only [step, h]

theorem step_title {rc : Str → Option Rat} {l : Str} {p : Codes} {c : Rat} (h : classify rc l = some (.title p c))
    (s : St) : step rc l (some s) = some { s with rows := [], secs := ⟨p, c, s.rows⟩ :: s.secs } := by
  simp only [step, h]

theorem step_heading {rc : Str → Option Rat} {l : Str} {b : Bucket} {n : Nat} (h : classify rc l = some (.heading b n))
    (s : St) : step rc l (some s) =
      if s.rows.isEmpty && n == s.secs.length then some { rows := [], secs := [], bks := (b, s.secs) :: s.bks } else none := by
  simp only [step, h]

theorem step_blank (rc : Str → Option Rat) (s : St) : step rc [] (some s) = some s :=
  step_skip (classify_blank rc) (.inl rfl) s

/-- The hygiene of one row / one section, names and cost texts together. -/
def RowOK (src : Codes → Rat → Str) (rc : Str → Option Rat) (r : Row) : Prop :=
  okRow r = true ∧ costOKb rc (src r.taxon r.cost) r.cost = true

def SecOK (sc : Rat → Str) (src : Codes → Rat → Str) (rc : Str → Option Rat) (s : Section) : Prop :=
  okPath s.path = true ∧ costOKb rc (sc s.cost) s.cost = true ∧ ∀ r ∈ s.rows, RowOK src rc r

theorem fold_rows (src : Codes → Rat → Str) (rc : Str → Option Rat) (w : Nat) (hw : 0 < w) (s : St) :
    ∀ rows : List Row, (∀ r ∈ rows, RowOK src rc r) →
      (rows.map (rowLine src w)).foldr (step rc) (some s) = some { s with rows := rows ++ s.rows } := by
  intro rows h
  induction rows with
  | nil => rfl
  | cons r t ih =>
    have hr := h r (by simp)
    rw [List.map_cons, List.foldr_cons, ih fun x hx => h x (List.mem_cons_of_mem _ hx)]
    exact step_row (classify_row src rc w hw r hr.2 hr.1) _

theorem fold_section (sc : Rat → Str) (src : Codes → Rat → Str) (rc : Str → Option Rat) (w : Nat) (hw : 0 < w)
    (sec : Section) (hs : SecOK sc src rc sec) (s : St) (h0 : s.rows = []) :
    (renderSection sc src w sec).foldr (step rc) (some s) = some { s with secs := sec :: s.secs } := by
  unfold renderSection
  simp only [List.foldr_cons, List.foldr_append, List.foldr_nil]
  rw [step_skip (classify_hr rc) (by simp), step_blank, fold_rows src rc w hw s sec.rows hs.2.2,
    step_skip (classify_rule rc) (by simp), step_skip (classify_header rc) (by simp), step_blank,
    step_title (classify_title sc rc sec hs.2.1 hs.1), step_blank]
  simp [h0]

theorem fold_sections (sc : Rat → Str) (src : Codes → Rat → Str) (rc : Str → Option Rat) (w : Nat) (hw : 0 < w) (s : St)
    (h0 : s.rows = []) :
    ∀ secs : List Section, (∀ x ∈ secs, SecOK sc src rc x) →
      (secs.flatMap (renderSection sc src w)).foldr (step rc) (some s) = some { s with secs := secs ++ s.secs } := by
  intro secs h
  induction secs with
  | nil => rfl
  | cons a t ih =>
    rw [List.flatMap_cons, List.foldr_append, ih fun x hx => h x (List.mem_cons_of_mem _ hx)]
    exact fold_section sc src rc w hw a (h a (by simp)) _ h0

theorem fold_bucket (sc : Rat → Str) (src : Codes → Rat → Str) (rc : Str → Option Rat) (w : Nat) (hw : 0 < w)
    (g : Bucket × List Section) (hg : ∀ x ∈ g.2, SecOK sc src rc x) (bks : List (Bucket × List Section)) :
    (renderBucket sc src w g).foldr (step rc) (some ⟨[], [], bks⟩) = some ⟨[], [], g :: bks⟩ := by
  unfold renderBucket
  rw [List.foldr_cons, List.foldr_cons, fold_sections sc src rc w hw ⟨[], [], bks⟩ rfl g.2 hg,
    step_heading (classify_heading rc g.1 g.2.length)]
  simp [step_blank]

theorem fold_body (sc : Rat → Str) (src : Codes → Rat → Str) (rc : Str → Option Rat) (w : Nat) (hw : 0 < w) :
    ∀ b : List (Bucket × List Section), (∀ g ∈ b, ∀ x ∈ g.2, SecOK sc src rc x) →
      (renderBody sc src w b).foldr (step rc) (some ⟨[], [], []⟩) = some ⟨[], [], b⟩ := by
  intro b h
  induction b with
  | nil => rfl
  | cons g t ih =>
    have ih := ih fun g' hg' => h g' (List.mem_cons_of_mem _ hg')
    simp only [renderBody, List.flatMap_cons, List.foldr_append] at ih ⊢
    rw [ih]
    exact fold_bucket sc src rc w hw g (h g (by simp)) t

theorem secOK_of (b : List (Bucket × List Section)) (hb : okBody b = true) (hc : costsOK sc src rc b = true) :
    ∀ g ∈ b, ∀ x ∈ g.2, SecOK sc src rc x := by
  intro g hg x hx
  simp only [okBody, okSection, costsOK, List.all_eq_true, Bool.and_eq_true] at hb hc
  have h1 := hb g hg x hx
  have h2 := hc g hg x hx
  exact ⟨h1.1, h2.1, fun r hr => ⟨h1.2 r hr, h2.2 r hr⟩⟩

theorem parseBody_eq_some (lines : List Str) (b : List (Bucket × List Section)) :
    parseBody rc lines = some b ↔ lines.foldr (step rc) (some ⟨[], [], []⟩) = some ⟨[], [], b⟩ := by
  unfold parseBody
  split
  · rename_i bks h
    rw [h]
    simp
  · rename_i h
    exact ⟨nofun, fun e => absurd e (h b)⟩

/-- Some line of `L` is read as `k`. -/
def Seen (L : List Str) (k : Line) : Prop := ∃ l ∈ L, classify rc l = some k

/-- The section / group comes from lines of the text that `classify` reads so. -/
def SecFrom (L : List Str) (sec : Section) : Prop :=
  Seen rc L (.title sec.path sec.cost) ∧ ∀ r ∈ sec.rows, Seen rc L (.row r)

def GroupFrom (L : List Str) (g : Bucket × List Section) : Prop :=
  Seen rc L (.heading g.1 g.2.length) ∧ ∀ sec ∈ g.2, SecFrom rc L sec

def SoundSt (L : List Str) (s : St) : Prop :=
  (∀ r ∈ s.rows, Seen rc L (.row r)) ∧ (∀ sec ∈ s.secs, SecFrom rc L sec) ∧ ∀ g ∈ s.bks, GroupFrom rc L g

theorem step_sound {rc : Str → Option Rat} {L : List Str} {l : Str} (hl : l ∈ L) {s s' : St} (hs : SoundSt rc L s)
    (h : step rc l (some s) = some s') : SoundSt rc L s' := by
  cases hc : classify rc l with
  | none => simp [step, hc] at h
  | some k =>
    have seen : Seen rc L k := ⟨l, hl, hc⟩
    cases k with
    | blank | header | rule | hr =>
      rw [step_skip hc (by simp)] at h
      cases h
      exact hs
    | row r =>
      rw [step_row hc] at h
      cases h
      exact ⟨List.forall_mem_cons.mpr ⟨seen, hs.1⟩, hs.2⟩
    | title p c =>
      rw [step_title hc] at h
      cases h
      exact ⟨List.forall_mem_nil _, List.forall_mem_cons.mpr ⟨⟨seen, hs.1⟩, hs.2.1⟩, hs.2.2⟩
    | heading b n =>
      rw [step_heading hc] at h
      split at h
      · rename_i hn
        cases h
        simp only [Bool.and_eq_true, beq_iff_eq] at hn
        exact ⟨List.forall_mem_nil _, List.forall_mem_nil _, List.forall_mem_cons.mpr ⟨⟨hn.2 ▸ seen, hs.2.1⟩, hs.2.2⟩⟩
      · cases h

theorem fold_sound (L lines : List Str) (hL : ∀ l ∈ lines, l ∈ L) (s : St)
    (h : lines.foldr (step rc) (some ⟨[], [], []⟩) = some s) : SoundSt rc L s := by
  induction lines generalizing s with
  | nil =>
    cases h
    exact ⟨List.forall_mem_nil _, List.forall_mem_nil _, List.forall_mem_nil _⟩
  | cons l t ih =>
    rw [List.foldr_cons] at h
    cases ht : t.foldr (step rc) (some ⟨[], [], []⟩) with
    | none => rw [ht] at h; cases h
    | some s1 =>
      rw [ht] at h
      exact step_sound (hL l (by simp)) (ih (fun x hx => hL x (List.mem_cons_of_mem _ hx)) s1 ht) h

/-- The grammar run over lines of text from phase `ph`, as `parseBodyStrict` does from `p0`: classify them
all, then `runPhase`. -/
def runLines (ph : Phase) (lines : List Str) : Option Phase :=
  (classifyAll rc lines).bind (runPhase ph)

theorem parseBodyStrict_eq_some (rc : Str → Option Rat) (lines : List Str) (b : List (Bucket × List Section)) :
    parseBodyStrict rc lines = some b ↔
      (∃ ph, runLines rc .p0 lines = some ph ∧ accepting ph = true) ∧ parseBody rc lines = some b := by
  unfold parseBodyStrict runLines
  cases classifyAll rc lines with
  | none => simp
  | some ks =>
    simp only [Option.bind_some]
    cases runPhase Phase.p0 ks with
    | none => simp
    | some ph => cases h : accepting ph <;> simp [h]

theorem runLines_cons {rc : Str → Option Rat} {l : Str} {k : Line} (hk : classify rc l = some k) {ph ph' : Phase}
    (hn : next ph k = some ph') (t : List Str) : runLines rc ph (l :: t) = runLines rc ph' t := by
  simp only [runLines, classifyAll, hk]
  cases classifyAll rc t with
  | none => rfl
  | some ks => simp only [Option.bind_some, runPhase, hn]

theorem runLines_append {rc : Str → Option Rat} {a : List Str} {ph ph' : Phase} (h : runLines rc ph a = some ph')
    (b : List Str) : runLines rc ph (a ++ b) = runLines rc ph' b := by
  induction a generalizing ph with
  | nil => cases h; rfl
  | cons l t ih =>
    cases hk : classify rc l with
    | none => simp [runLines, classifyAll, hk] at h
    | some k =>
      cases hn : next ph k with
      | none =>
        simp only [runLines, classifyAll, hk] at h
        cases hc : classifyAll rc t <;> simp [hc, runPhase, hn] at h
      | some ph1 =>
        rw [runLines_cons hk hn] at h
        rw [List.cons_append, runLines_cons hk hn]
        exact ih h

/-- A loop of the grammar: blocks of lines that each lead from `ph` back to `ph`. -/
theorem runLines_flatMap {α : Type} {rc : Str → Option Rat} {ph : Phase} (f : α → List Str) (xs : List α)
    (h : ∀ x ∈ xs, runLines rc ph (f x) = some ph) : runLines rc ph (xs.flatMap f) = some ph := by
  induction xs with
  | nil => rfl
  | cons a t ih =>
    rw [List.flatMap_cons, runLines_append (h a List.mem_cons_self)]
    exact ih fun x hx => h x (List.mem_cons_of_mem _ hx)

theorem runLines_section (hw : 0 < w)
    (sec : Section) (hs : SecOK sc src rc sec) : runLines rc .b (renderSection sc src w sec) = some .b := by
  have hrows : runLines rc .s4 (sec.rows.flatMap fun r => [rowLine src w r]) = some .s4 :=
    runLines_flatMap _ _ fun r hr =>
      runLines_cons (classify_row src rc w hw r (hs.2.2 r hr).2 (hs.2.2 r hr).1) (ph := .s4) rfl []
  rw [renderSection, runLines_cons (classify_blank rc) (ph := .b) rfl,
    runLines_cons (classify_title sc rc sec hs.2.1 hs.1) (ph := .b1) rfl, runLines_cons (classify_blank rc) (ph := .s1) rfl,
    runLines_cons (classify_header rc) (ph := .s2) rfl, runLines_cons (classify_rule rc) (ph := .s3) rfl,
    List.map_eq_flatMap, runLines_append hrows, runLines_cons (classify_blank rc) (ph := .s4) rfl,
    runLines_cons (classify_hr rc) (ph := .s5) rfl]
  rfl

theorem runLines_body (hw : 0 < w)
    (b : List (Bucket × List Section)) (hb : ∀ g ∈ b, ∀ x ∈ g.2, SecOK sc src rc x) (ph : Phase)
    (h : ph = .p0 ∨ ph = .b) :
    ∃ ph', runLines rc ph (renderBody sc src w b) = some ph' ∧ accepting ph' = true := by
  induction b generalizing ph with
  | nil => exact ⟨ph, rfl, by rcases h with rfl | rfl <;> rfl⟩
  | cons g t ih =>
    obtain ⟨ph', e, h'⟩ := ih (fun g' hg' => hb g' (List.mem_cons_of_mem _ hg')) .b (.inr rfl)
    refine ⟨ph', ?_, h'⟩
    have hg : runLines rc ph (renderBucket sc src w g) = some .b := by
      obtain ⟨ph1, h1, h2⟩ : ∃ ph1, next ph .blank = some ph1 ∧ next ph1 (.heading g.1 g.2.length) = some .b := by
        rcases h with rfl | rfl <;> exact ⟨_, rfl, rfl⟩
      rw [renderBucket, runLines_cons (classify_blank rc) h1, runLines_cons (classify_heading rc g.1 g.2.length) h2]
      exact runLines_flatMap _ _ fun x hx => runLines_section sc src rc w hw x (hb g (by simp) x hx)
    rw [renderBody, List.flatMap_cons, runLines_append hg]
    exact e

-- Both models have `split("\n")` and `"\n".join`: the facts about them are those of `Cleanup`.
theorem splitLines_eq_splitNl : ∀ s : Str, splitLines s = Cleanup.splitNl s
  | [] => rfl
  | c :: t => by rw [splitLines, Cleanup.splitNl, splitLines_eq_splitNl t]; rfl

theorem joinLines_eq_joinNl : ∀ ls : List Str, joinLines ls = Cleanup.joinNl ls
  | [] => rfl
  | [_] => rfl
  | a :: b :: t => by rw [joinLines, Cleanup.joinNl_cons_cons, joinLines_eq_joinNl (b :: t)]

theorem splitLines_joinLines (ls : List Str) (hne : ls ≠ []) (h : ∀ l ∈ ls, '\n' ∉ l) :
    splitLines (joinLines ls) = ls := by
  rw [joinLines_eq_joinNl, splitLines_eq_splitNl, Cleanup.splitNl_joinNl ls hne h]

theorem mem_joinWith (sep : Str) (ls : List Str) (c : Char) (h : c ∈ joinWith sep ls) : c ∈ sep ∨ ∃ l ∈ ls, c ∈ l := by
  fun_induction joinWith sep ls with
  | case1 => cases h
  | case2 a => exact .inr ⟨a, List.mem_singleton_self a, h⟩
  | case3 a b t ih =>
    rcases List.mem_append.mp h with h | h
    · rcases List.mem_append.mp h with h | h
      · exact .inr ⟨a, List.mem_cons_self, h⟩
      · exact .inl h
    · exact (ih h).imp_right fun ⟨l, hl, hc⟩ => ⟨l, List.mem_cons_of_mem _ hl, hc⟩

theorem renderCell_no_nl (W : Nat) (hW : 1 ≤ W) (spans : List Span) (hn : ∀ sp ∈ spans, 0 ≤ sp.1 ∧ 0 ≤ sp.2) :
    '\n' ∉ renderCell W spans := by
  obtain ⟨ps, rfl⟩ := exists_toSpan spans hn
  cases ps with
  | nil => rw [show renderCell W ([].map toSpan) = imported from rfl, imported_eq]; decide +kernel
  | cons p t =>
    have hs := join_not_mem (p :: t) '\n' rfl (by decide) (by decide)
    have hsp := wrapContents_spdel W 3 hW _ (join_head (p :: t))
    rw [renderCell, enumerationToTxt_of_ne_nil W _ (join_ne_nil p t)]
    generalize joinSpans _ = s at hs hsp ⊢
    -- a wrapped line is made of characters of the enumeration
    have hline : ∀ l ∈ wrapContents W 3 s, '\n' ∉ l := fun l hl hc =>
      hs (hsp.mem _ (List.mem_flatten.mpr ⟨l, hl, hc⟩))
    split
    · exact hs
    · generalize wrapContents W 3 s = ls at hline
      simp only [List.mem_append, not_or]
      refine ⟨⟨⟨⟨by rw [tagOpen_eq]; decide +kernel, fun h => ?_⟩, by rw [tagMid_eq]; decide +kernel⟩, fun h => ?_⟩,
        by rw [tagClose_eq]; decide +kernel⟩
      · cases ls with
        | nil => cases h
        | cons a r => exact hline a List.mem_cons_self h
      · rcases mem_joinWith _ _ _ h with h | ⟨l, hl, hc⟩
        · exact absurd h (by rw [tagBr_eq]; decide +kernel)
        · exact hline l (List.mem_of_mem_tail hl) hc

theorem cost_no_nl {rc : Str → Option Rat} {txt : Str} {c : Rat} (h : costOKb rc txt c = true) : '\n' ∉ txt :=
  fun hm => (costChar_ne _ ((costOKb_spec h).1 _ hm)).2 rfl

theorem nat_no_nl (n : Nat) : '\n' ∉ nat n := fun h => by
  have := isDigit_digits n _ h
  revert this; decide

theorem headingLine_no_nl (b : Bucket) (n : Nat) : '\n' ∉ headingLine b n := by
  have hb : '\n' ∉ bucketText b := by
    cases b with
    | pow lo =>
      simp only [bucketText, List.mem_append, not_or]
      exact ⟨by decide, nat_no_nl lo, ⟨by decide, nat_no_nl _⟩, by decide⟩
    | _ => decide
  simp only [headingLine, List.mem_append, not_or]
  refine ⟨by decide, nat_no_nl n, ⟨⟨by decide, ?_⟩, by decide⟩, hb⟩
  unfold plural; split <;> decide

theorem renderBody_no_nl (hw : 0 < w)
    (b : List (Bucket × List Section)) (hb : okBody b = true) (hc : costsOK sc src rc b = true) :
    ∀ l ∈ renderBody sc src w b, '\n' ∉ l := by
  intro l hl
  simp only [renderBody, List.mem_flatMap] at hl
  obtain ⟨g, hg, hl⟩ := hl
  simp only [renderBucket, List.mem_cons, List.mem_flatMap] at hl
  rcases hl with rfl | rfl | ⟨sec, hsec, hl⟩
  · exact List.not_mem_nil
  · exact headingLine_no_nl _ _
  · obtain ⟨hp, hcost, hrows⟩ := secOK_of sc src rc b hb hc g hg sec hsec
    simp only [renderSection, List.mem_cons, List.mem_append, List.mem_map, List.not_mem_nil, or_false] at hl
    rcases hl with rfl | rfl | rfl | rfl | rfl | ⟨r, hr, rfl⟩ | rfl | rfl
    · exact List.not_mem_nil
    · obtain ⟨hv, h10⟩ := okPath_spec hp
      simp only [titleLine, List.mem_append, not_or]
      exact ⟨by decide, not_mem_chars hv h10, by decide, cost_no_nl hcost, by decide⟩
    · exact List.not_mem_nil
    · decide
    · decide
    · obtain ⟨ht, hsp⟩ := okRow_spec (hrows r hr).1
      obtain ⟨hv, _, h10⟩ := okTaxon_spec ht
      simp only [rowLine, List.mem_append, not_or]
      exact ⟨by decide, cost_no_nl (hrows r hr).2, by decide, not_mem_chars hv h10, by decide,
        renderCell_no_nl w hw r.spans hsp, by decide⟩
    · exact List.not_mem_nil
    · decide

/-- A reader of lines that gives back the body reads it from the text as well: the text splits back into its
lines, except that the empty body is the empty text, which splits into one blank line. -/
theorem read_text {f : List Str → Option (List (Bucket × List Section))} (h0 : f [[]] = some [])
    (hw : 0 < w) (b : List (Bucket × List Section)) (hb : okBody b = true) (hc : costsOK sc src rc b = true)
    (h : f (renderBody sc src w b) = some b) : f (splitLines (joinLines (renderBody sc src w b))) = some b := by
  cases b with
  | nil => exact h0
  | cons g t =>
    rwa [splitLines_joinLines _ (by simp [renderBody, renderBucket]) (renderBody_no_nl sc src rc w hw _ hb hc)]

/-- A test vector given as strings is compared as lists of characters, which `String.toList_ofList` reads off the
literals. -/
theorem map_ofList_eq {A : List Str} {B : List String} (h : A = B.map String.toList) : A.map String.ofList = B := by
  subst h
  simp

end Paroxy.ReportText
