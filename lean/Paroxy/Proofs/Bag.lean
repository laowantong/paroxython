/-
Count-level characterisation of the Counter operations of `Model/Bag.lean`.
All reasoning about `deduplicated_taxa` is done through these `count_…` lemmas.
-/
import Paroxy.Model.Bag
import Paroxy.Proofs.Assoc
namespace Paroxy.Bag
variable {σ : Type} [DecidableEq σ]
set_option linter.unusedSectionVars false

@[simp] theorem count_nil (s : σ) : count ([] : Bag σ) s = 0 := rfl
@[simp] theorem count_cons (k : σ) (v : Int) (t : Bag σ) (s : σ) :
    count ((k, v) :: t) s = if k = s then v else count t s := rfl
@[simp] theorem hasKey_nil (s : σ) : hasKey ([] : Bag σ) s = false := rfl
@[simp] theorem hasKey_cons (k : σ) (v : Int) (t : Bag σ) (s : σ) :
    hasKey ((k, v) :: t) s = if k = s then true else hasKey t s := rfl

theorem hasKey_iff (b : Bag σ) (s : σ) : hasKey b s = true ↔ s ∈ b.map Prod.fst := by
  rcases (⟨hasKey_nil, hasKey_cons⟩ : Assoc.IsLookup hasKey false fun _ => true).cases b s with ⟨hn, h⟩ | ⟨_, hv, h⟩
  · simp [h, hn]
  · simp [h, List.mem_map_of_mem (f := Prod.fst) hv]

theorem count_isLookup : Assoc.IsLookup (count (σ := σ)) 0 id := ⟨count_nil, count_cons⟩

theorem set_isUpdate (v : Int) : Assoc.IsUpdate (fun (b : Bag σ) s => set b s v) fun _ => v :=
  ⟨fun _ => rfl, fun _ _ _ _ => rfl⟩

theorem count_eq_zero_of_not_mem {b : Bag σ} {s : σ} (h : s ∉ b.map Prod.fst) : count b s = 0 :=
  count_isLookup.of_not_mem h

theorem count_eq_zero_of_hasKey_false {b : Bag σ} {s : σ} (h : hasKey b s = false) :
    count b s = 0 := by
  apply count_eq_zero_of_not_mem
  rw [← hasKey_iff]; simp [h]

theorem count_of_mem {b : Bag σ} (hb : WF b) {x : σ × Int} (hx : x ∈ b) : count b x.1 = x.2 :=
  count_isLookup.of_mem hb hx

theorem count_set (b : Bag σ) (s s' : σ) (v : Int) :
    count (set b s v) s' = if s = s' then v else count b s' :=
  (set_isUpdate v).lookup count_isLookup (ψ := fun _ => v) rfl (fun _ => rfl) b s s'

theorem keys_set (b : Bag σ) (s : σ) (v : Int) :
    (set b s v).map Prod.fst = if s ∈ b.map Prod.fst then b.map Prod.fst else b.map Prod.fst ++ [s] :=
  (set_isUpdate v).keys b s _

theorem WF_set {b : Bag σ} (hb : WF b) (s : σ) (v : Int) : WF (set b s v) :=
  (set_isUpdate v).nodup_keys hb s

theorem mem_set {b : Bag σ} {s : σ} {v : Int} {x : σ × Int} (h : x ∈ set b s v) : x = (s, v) ∨ x ∈ b :=
  ((set_isUpdate v).mem h).symm.imp_left fun ⟨_, h⟩ => h

theorem WF_nil : WF ([] : Bag σ) := by simp [WF]

/-- A loop over the items of a dict whose step changes at most the count of the item's key, to a
value `φ` of the count found there and of the item: the keys being distinct, every count is touched
at most once, so the count found is the initial one. -/
theorem count_foldl {f : Bag σ → σ × Int → Bag σ} {φ : Int → σ × Int → Int}
    (hf : ∀ res e s, count (f res e) s = if e.1 = s then φ (count res s) e else count res s)
    {l : Bag σ} (hl : WF l) (s : σ) :
    ∀ res, count (l.foldl f res) s
      = if hasKey l s = true then φ (count res s) (s, count l s) else count res s := by
  induction l with
  | nil => intro res; simp
  | cons e t ih =>
    obtain ⟨k, v⟩ := e
    simp only [WF, List.map_cons, List.nodup_cons] at hl
    intro res
    rw [List.foldl_cons, ih hl.2, hf]
    by_cases hk : k = s
    · subst hk
      have h0 : hasKey t k = false := Bool.eq_false_iff.mpr fun h => hl.1 ((hasKey_iff t k).mp h)
      simp [h0]
    · simp [hk]

/-- The step of the loops of `Counter.__sub__`: a guarded assignment. -/
theorem count_ite_set (c : Prop) [Decidable c] (res : Bag σ) (k : σ) (v : Int) (s : σ) :
    count (if c then set res k v else res) s
      = if k = s then (if c then v else count res s) else count res s := by
  split <;> simp [count_set]

theorem WF_ite_set (c : Prop) [Decidable c] {res : Bag σ} (h : WF res) (k : σ) (v : Int) :
    WF (if c then set res k v else res) := by
  split
  · exact WF_set h k v
  · exact h

theorem count_subtract (a b : Bag σ) (hb : WF b) (s : σ) :
    count (subtract a b) s = count a s - count b s := by
  rw [subtract, count_foldl (φ := fun c e => c - e.2) (fun res e s => by rw [count_set]; split <;> simp [*]) hb]
  split
  · rfl
  · next h => rw [count_eq_zero_of_hasKey_false (Bool.eq_false_iff.mpr h), Int.sub_zero]

theorem WF_subtract {a : Bag σ} (ha : WF a) (b : Bag σ) : WF (subtract a b) :=
  List.foldlRecOn (motive := WF) b _ ha fun _ h _ _ => WF_set h _ _

/-- **`Counter.__sub__`, count-wise**: truncated subtraction, *whatever the keys present* — the
second loop is what makes this true when the right operand has negative counts. -/
theorem count_sub (a b : Bag σ) (ha : WF a) (hb : WF b) (s : σ) :
    count (sub a b) s = max (count a s - count b s) 0 := by
  rw [sub, subLoop2, subLoop1,
    count_foldl (φ := fun c e => if (!hasKey a e.1 && decide (e.2 < 0)) = true then 0 - e.2 else c)
      (fun res e s => count_ite_set _ res e.1 _ s) hb,
    count_foldl (φ := fun c e => if 0 < e.2 - count b e.1 then e.2 - count b e.1 else c)
      (fun res e s => count_ite_set _ res e.1 _ s) ha, count_nil]
  cases hA : hasKey a s
  · have h0 := count_eq_zero_of_hasKey_false hA
    cases hB : hasKey b s
    · simp [h0, count_eq_zero_of_hasKey_false hB]
    · simp only [h0, Bool.not_false, Bool.true_and, decide_eq_true_eq, if_true, Bool.false_eq_true, if_false]
      split <;> omega
  · simp only [Bool.not_true, Bool.false_and, Bool.false_eq_true, if_false, if_true, ite_self]
    split <;> omega

theorem WF_sub (a b : Bag σ) : WF (sub a b) :=
  List.foldlRecOn (motive := WF) b _
    (List.foldlRecOn (motive := WF) a _ WF_nil fun _ h _ _ => WF_ite_set _ h _ _)
    fun _ h _ _ => WF_ite_set _ h _ _

theorem WF_keepPositive {a : Bag σ} (ha : WF a) : WF (keepPositive a) := by
  unfold WF keepPositive at *
  exact List.Nodup.sublist (List.Sublist.map _ List.filter_sublist) ha

theorem mem_keepPositive {a : Bag σ} {x : σ × Int} :
    x ∈ keepPositive a ↔ x ∈ a ∧ 0 < x.2 := by
  simp [keepPositive, List.mem_filter]

theorem count_keepPositive {a : Bag σ} (ha : WF a) (s : σ) :
    count (keepPositive a) s = if 0 < count a s then count a s else 0 := by
  induction a with
  | nil => simp [keepPositive]
  | cons e t ih =>
    obtain ⟨k, v⟩ := e
    simp only [WF, List.map_cons, List.nodup_cons] at ha
    have ih' := ih ha.2
    unfold keepPositive at ih' ⊢
    by_cases hk : k = s
    · subst hk
      by_cases hv : 0 < v <;> simp [hv, ih', count_eq_zero_of_not_mem ha.1]
    · by_cases hv : 0 < v <;> simp [hv, hk, ih']

theorem count_nonneg {a : Bag σ} (h : ∀ x ∈ a, 0 ≤ x.2) (s : σ) : 0 ≤ count a s :=
  count_isLookup.ind (P := (0 ≤ ·)) (Int.le_refl 0) h s

theorem keepPositive_eq_self {a : Bag σ} (h : ∀ x ∈ a, 0 < x.2) : keepPositive a = a := by
  unfold keepPositive
  rw [List.filter_eq_self]
  intro x hx
  simpa using h x hx

theorem count_updateList (b : Bag σ) (l : List σ) (s : σ) :
    count (updateList b l) s = count b s + (l.count s : Nat) := by
  unfold updateList
  induction l generalizing b with
  | nil => simp
  | cons x t ih =>
    simp only [List.foldl_cons]
    rw [ih, count_set]
    by_cases hx : x = s
    · subst hx; simp; omega
    · simp [hx]

end Paroxy.Bag
