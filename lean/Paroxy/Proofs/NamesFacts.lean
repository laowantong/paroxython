/-
What the proofs need to know of the generated name dictionary (`KeyDict`), checked by the kernel on the
dictionary itself.
-/
import Paroxy.Gen.CompareSpans
import Paroxy.Spec.NormalizePredicate
import Paroxy.Proofs.SpecKeys
namespace Paroxy.NP
open Paroxy Paroxy.Spec Paroxy.Spec.NP

/-- The dictionary `compare_spans` after the alias updates, as name ↦ key (from the generated
table). -/
def names : List (Codes × Codes) :=
  (resolveUpdates (Gen.table.map fun p => (p.1, p.1)) Gen.updates).getD []

def valueOk (v : Codes) : Bool :=
  match parseKey v with
  | some k => k.balanced
  | none => false

theorem valueOk_spec {v : Codes} (h : valueOk v = true) : ∃ k ∈ allKeys, v = k.codes := by
  unfold valueOk at h
  split at h
  · rename_i k hk
    exact ⟨k, (mem_allKeys k).mpr h, parseKey_some hk⟩
  · cases h

/-- All that the proofs use of a dictionary `nm`, whatever the order of its entries: each key is bound to
itself, each name of the manual to its key, every value is a key, and an entry that is not `k ↦ k` has a
text that the salvage pipeline does not turn into a key (not seven characters). -/
structure KeyDict (nm : List (Codes × Codes)) : Prop where
  key : ∀ k ∈ allKeys, dictGet? nm k.codes = some k.codes
  alias : ∀ p ∈ aliases, dictGet? nm p.1 = some p.2.codes
  entry : ∀ p ∈ nm, valueOk p.2 = true ∧ (p.1 = p.2 ∨ (salvage p.1).length ≠ 7)

/-- Checked on the dictionary itself, whatever the order of its entries. The keys are not looked up one by
one (162 scans comparing texts): the key texts of the dictionary are read once, as numbers (`Key.index`), and
each key of `allKeys` is searched among these numbers. -/
theorem names_keyDict : KeyDict names := by
  have h : (allKeys.all (fun k => (names.filterMap fun p =>
        if valueOk p.1 then (parseKey p.1).map Key.index else none).contains k.index) &&
      aliases.all (fun p => dictGet? names p.1 == some p.2.codes) &&
      names.all (fun p => valueOk p.2 && (p.1 == p.2 || ((salvage p.1).length != 7 && !valueOk p.1)))) = true := by
    decide +kernel
  simp only [Bool.and_eq_true, Bool.or_eq_true, List.all_eq_true, beq_iff_eq, bne_iff_ne, Bool.not_eq_true',
    List.contains_iff_mem, List.mem_filterMap] at h
  obtain ⟨⟨hkeys, hal⟩, hent⟩ := h
  refine ⟨fun k hk => ?_, hal, fun p hp => ⟨(hent p hp).1, (hent p hp).2.imp id And.left⟩⟩
  obtain ⟨p, hp, hpk⟩ := hkeys k hk
  split at hpk
  · rename_i hv
    obtain ⟨k', hk', e⟩ := valueOk_spec hv
    rw [e, parseKey_codes, Option.map_some, Option.some.injEq] at hpk
    obtain rfl := allKeys_index_inj hk' hk hpk
    obtain ⟨v, hv'⟩ := dictGet?_of_key_mem (List.mem_map.mpr ⟨p, hp, e⟩)
    obtain ⟨_, h1 | h1⟩ := hent _ (dictGet?_mem hv')
    · have h1 : k'.codes = v := h1
      rw [hv', h1]
    · have h2 : valueOk k'.codes = false := h1.2
      rw [← e, hv] at h2
      cases h2
  · cases hpk

theorem KeyDict.value {nm : List (Codes × Codes)} (h : KeyDict nm) {p v : Codes}
    (hv : dictGet? nm p = some v) : ∃ k ∈ allKeys, v = k.codes :=
  valueOk_spec (h.entry (p, v) (dictGet?_mem hv)).1

theorem KeyDict.normalize_mem_allKeys {nm : List (Codes × Codes)} (h : KeyDict nm) (s : Str) (r : Codes × Bool)
    (hr : normalize nm s = some r) : ∃ k ∈ allKeys, r.1 = k.codes := by
  unfold normalize finish at hr
  simp only at hr
  split at hr
  · rename_i v hv; cases hr; exact h.value hv
  · split at hr
    · rename_i v hv; cases hr; exact h.value hv
    · cases hr

end Paroxy.NP
