/- The recommender as a whole: the logged runs compute what `run_pipeline` computes on the concatenated
commands, and assessment and report succeed when every path is a program. -/
import Paroxy.Proofs.Report
import Paroxy.Proofs.Dict
namespace Paroxy.Report
open Paroxy Paroxy.Filter Paroxy.Costs

theorem go_state (c : Ctx) (r : Relations) (cmds : List Command) :
    ∀ (st : State) (cur : List Codes) (idx : Nat) (log : List LogEntry) (st' : State) (log' : List LogEntry),
      runLogged.go c r st cur idx cmds log = .ok (st', log') → runPipeline c r st cmds = .ok st' := by
  induction cmds with
  | nil =>
    intro st cur idx log st' log' h
    cases h
    rfl
  | cons cmd t ih =>
    intro st cur idx log st' log' h
    simp only [runPipeline, foldE]
    rcases go_cons h with ⟨hc, h'⟩ | ⟨op, q, sm, hc, _, h'⟩
    · rw [hc]; exact ih st cur (idx + 1) log st' log' h'
    · rw [hc]; exact ih sm _ (idx + 1) _ st' log' h'

theorem foldE_append {σ α ε : Type} (f : σ → α → Except ε σ) (s : σ) (a b : List α) :
    foldE f s (a ++ b) = match foldE f s a with
      | .error e => .error e
      | .ok s' => foldE f s' b := by
  induction a generalizing s with
  | nil => simp [foldE]
  | cons x t ih =>
    simp only [List.cons_append, foldE]
    cases f s x with
    | error e => rfl
    | ok s' => exact ih s'

theorem runsLogged_state (c : Ctx) (r : Relations) (runs : List (List Command)) :
    ∀ (st : State) (log : List LogEntry) (st' : State) (log' : List LogEntry),
      runsLogged c r st log runs = .ok (st', log') → runPipeline c r st runs.flatten = .ok st' := by
  induction runs with
  | nil =>
    intro st log st' log' h
    simp only [runsLogged] at h
    cases h
    rfl
  | cons cmds t ih =>
    intro st log st' log' h
    simp only [runsLogged] at h
    cases hr : runLogged c r st cmds with
    | error e => rw [hr] at h; cases h
    | ok v =>
      obtain ⟨sm, l⟩ := v
      rw [hr] at h
      simp only at h
      have h1 := go_state c r cmds st st.selected 1 [] sm l hr
      have h2 := ih sm (log ++ l) st' log' h
      simp only [List.flatten_cons, runPipeline] at h1 h2 ⊢
      rw [foldE_append, h1]
      exact h2

theorem assess_spec (strat : Strategy) (progs : List (Codes × TaxaSpans)) (K sel : List Codes)
    (l : List (Rat × Codes)) (h : assess strat progs K sel = some l) :
    (l.map (·.2)).Perm sel ∧
    ∀ cp ∈ l, ∃ rec, dictGet? progs cp.2 = some rec ∧ cp.1 = programCost strat K rec := by
  rw [assess_eq] at h
  obtain ⟨costs, hm, rfl⟩ := Option.map_eq_some_iff.mp h
  have ha := mapM_some_all2 hm
  have hperm := List.mergeSort_perm costs leCostPath
  -- an entry of the cost list pairs a path with the cost of its record
  have entry : ∀ p (cp : Rat × Codes), ((dictGet? progs p).map fun rec => (programCost strat K rec, p)) = some cp →
      cp.2 = p ∧ ∃ rec, dictGet? progs p = some rec ∧ cp.1 = programCost strat K rec := by
    intro p cp h
    obtain ⟨rec, hd, rfl⟩ := Option.map_eq_some_iff.mp h
    exact ⟨rfl, rec, hd, rfl⟩
  refine ⟨?_, fun cp hcp => ?_⟩
  · have := hperm.map (·.2)
    rwa [ha.map_eq (g := id) fun p cp hcp => (entry p cp hcp).1, List.map_id] at this
  · obtain ⟨p, _, hp⟩ := ha.mem_right (hperm.mem_iff.mp hcp)
    obtain ⟨e, rec, hrec, hc⟩ := entry p cp hp
    exact ⟨rec, e ▸ hrec, hc⟩

theorem mapM_some_of_forall {α β} (f : α → Option β) (l : List α) (h : ∀ a ∈ l, ∃ b, f a = some b) :
    ∃ r, l.mapM f = some r := by
  induction l with
  | nil => exact ⟨[], rfl⟩
  | cons a t ih =>
    obtain ⟨b, hb⟩ := h a List.mem_cons_self
    obtain ⟨r, hr⟩ := ih fun x hx => h x (List.mem_cons_of_mem _ hx)
    exact ⟨b :: r, by simp [List.mapM_cons, hb, hr]⟩

theorem assess_total (strat : Strategy) (progs : List (Codes × TaxaSpans)) (K sel : List Codes)
    (h : ∀ p ∈ sel, p ∈ progs.map (·.1)) : ∃ l, assess strat progs K sel = some l := by
  obtain ⟨r, hr⟩ := mapM_some_of_forall
    (fun p => (dictGet? progs p).map fun rec => (programCost strat K rec, p)) sel (by
      intro p hp
      obtain ⟨v, hv⟩ := dictGet?_of_key_mem (h p hp)
      exact ⟨_, by rw [hv]; rfl⟩)
  exact ⟨r.mergeSort leCostPath, by rw [assess_eq, hr]; rfl⟩

theorem body_total (i : Input) (h : ∀ cp ∈ i.assessed, cp.2 ∈ i.programs.map (·.1)) : ∃ b, body i = some b := by
  rw [body_eq]
  apply mapM_some_of_forall
  intro g hg
  have hmem : ∀ x ∈ g.2, x ∈ visible i := by
    intro x hx
    have hp := (groupBy_spec (groupKey i) (visible i)).2
    exact hp.mem_iff.mp (List.mem_flatMap.mpr ⟨g, hg, hx⟩)
  obtain ⟨secs, hs⟩ := mapM_some_of_forall (sectionOf i) (g.2.mergeSort (leMember i.sorting i.sloc)) (by
    intro cp hcp
    have h1 : cp ∈ g.2 := (List.mergeSort_perm g.2 _).mem_iff.mp hcp
    have h2 : cp ∈ i.assessed := (List.mem_filter.mp (hmem cp h1)).1
    obtain ⟨v, hv⟩ := dictGet?_of_key_mem (h cp h2)
    exact ⟨_, by unfold sectionOf; rw [hv]; rfl⟩)
  exact ⟨(g.1, secs), by unfold groupSections; rw [hs]; rfl⟩

end Paroxy.Report
