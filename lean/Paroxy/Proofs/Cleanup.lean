/-
The text passes of `Cleanup` (Model/Cleanup.lean), each read on the lines of the text (`splitNl` / `joinNl`);
the guard pass and the injection pass as one walk through the source (`keepOutsideGuards_cons`).
-/
import Paroxy.Model.Cleanup
import Paroxy.Spec.Cleanup
import Paroxy.Proofs.SplitOn
namespace Paroxy.Cleanup
open Paroxy.Cleanup.Spec

theorem ne_nl_of_not_ws {c : Char} (h : isWs c = false) : c ≠ '\n' :=
  fun hc => absurd (hc ▸ h) (by decide)

theorem blank_cons (c : Char) (l : Line) : blank (c :: l) = (isWs c && blank l) := by
  simp [blank]

theorem blank_nil : blank [] = true := by simp [blank]

theorem splitNl_cons_nl (cs : Text) : splitNl ('\n' :: cs) = [] :: splitNl cs := by
  rw [splitNl]; simp

theorem splitNl_cons_of_ne {c : Char} (hc : c ≠ '\n') {cs : Text} {l : Line} {ls : List Line}
    (hs : splitNl cs = l :: ls) : splitNl (c :: cs) = (c :: l) :: ls := by
  rw [splitNl, if_neg hc, hs]

theorem joinNl_cons_cons (l m : Line) (rest : List Line) :
    joinNl (l :: m :: rest) = l ++ '\n' :: joinNl (m :: rest) := rfl

-- `split("\n")` and `"\n".join` are those of `Dedup` at the separator `'\n'`: their facts come from there.
theorem splitNl_eq_splitOn : ∀ t : Text, splitNl t = Dedup.splitOn '\n' t
  | [] => rfl
  | c :: cs => by
    rw [splitNl, Dedup.splitOn, splitNl_eq_splitOn cs]
    split
    · rfl
    · cases Dedup.splitOn '\n' cs <;> rfl

theorem joinNl_eq_join : ∀ ls : List Line, joinNl ls = Dedup.join '\n' ls
  | [] => rfl
  | [_] => rfl
  | l :: m :: rest => by rw [joinNl_cons_cons, Dedup.join, joinNl_eq_join (m :: rest)]

theorem splitNl_ne_nil (t : Text) : splitNl t ≠ [] :=
  splitNl_eq_splitOn t ▸ Dedup.splitOn_ne_nil '\n' t

theorem splitNl_cons (c : Char) (cs : Text) : ∃ l ls, splitNl cs = l :: ls ∧
    splitNl (c :: cs) = if c = '\n' then [] :: l :: ls else (c :: l) :: ls := by
  simpa only [splitNl_eq_splitOn] using Dedup.splitOn_cons '\n' c cs

theorem joinNl_splitNl (t : Text) : joinNl (splitNl t) = t := by
  rw [joinNl_eq_join, splitNl_eq_splitOn, Dedup.join_splitOn]

theorem splitNl_no_nl (t : Text) : ∀ l ∈ splitNl t, '\n' ∉ l :=
  splitNl_eq_splitOn t ▸ Dedup.sep_not_mem_splitOn '\n' t

theorem splitNl_joinNl (ls : List Line) (hne : ls ≠ []) (h : ∀ l ∈ ls, '\n' ∉ l) :
    splitNl (joinNl ls) = ls := by
  rw [joinNl_eq_join, splitNl_eq_splitOn, Dedup.splitOn_join _ _ hne h]

theorem rstrip_eq_nil (l : Text) : rstrip l = [] ↔ blank l = true := by
  induction l with
  | nil => simp [rstrip, blank]
  | cons c cs ih =>
    rw [blank_cons, rstrip]
    split
    · rename_i h; simp only [ih.mp h, Bool.and_true]; split <;> simp [*]
    · rename_i r rs h
      have : blank cs ≠ true := fun hb => by simp [ih.mpr hb] at h
      simp [this]

theorem rstrip_cons (c : Char) (cs : Text) :
    rstrip (c :: cs) = if blank (c :: cs) then [] else c :: rstrip cs := by
  split
  · rename_i h; exact (rstrip_eq_nil _).mpr h
  · rename_i h
    rw [blank_cons] at h
    rw [rstrip]
    split
    · rename_i hr; simp only [(rstrip_eq_nil cs).mp hr, Bool.and_true] at h; rw [hr, if_neg h]
    · rename_i hr; rw [hr]

theorem blank_rstrip (l : Text) : blank (rstrip l) = blank l := by
  induction l with
  | nil => rfl
  | cons c cs ih =>
    rw [rstrip_cons]
    split
    · rename_i h; rw [h]; rfl
    · rw [blank_cons, ih, ← blank_cons]

theorem rstrip_rstrip (l : Text) : rstrip (rstrip l) = rstrip l := by
  induction l with
  | nil => rfl
  | cons c cs ih =>
    rw [rstrip_cons]
    split
    · rfl
    · rename_i h
      rw [rstrip_cons, blank_cons, blank_rstrip, ← blank_cons, if_neg h, ih]

theorem rstrip_prefix (l : Text) : rstrip l <+: l := by
  induction l with
  | nil => exact List.prefix_rfl
  | cons c cs ih =>
    rw [rstrip_cons]
    split
    · exact List.nil_prefix
    · exact List.cons_prefix_cons.mpr ⟨rfl, ih⟩

/-- The text ends with a character that is not whitespace. -/
def lastNonWs : Text → Bool
  | [] => false
  | [c] => !isWs c
  | _ :: c :: cs => lastNonWs (c :: cs)

theorem lastNonWs_rstrip (l : Text) (h : rstrip l ≠ []) : lastNonWs (rstrip l) = true := by
  induction l with
  | nil => exact absurd rfl h
  | cons c cs ih =>
    rw [rstrip_cons] at h ⊢
    split at h
    · exact absurd rfl h
    · rename_i hb
      rw [if_neg hb]
      cases hr : rstrip cs with
      | nil =>
        rw [blank_cons, (rstrip_eq_nil cs).mp hr, Bool.and_true] at hb
        simpa [lastNonWs] using hb
      | cons r rs => rw [hr] at ih; exact ih (List.cons_ne_nil _ _)

theorem strip_spec (t : Text) :
    strip t = [] ∨ ∃ c r, strip t = c :: r ∧ isWs c = false ∧ lastNonWs (c :: r) = true := by
  have hc := List.head?_dropWhile_not isWs t
  unfold strip lstrip
  cases hl : t.dropWhile isWs with
  | nil => exact Or.inl rfl
  | cons c r =>
    rw [hl] at hc
    have hr : rstrip (c :: r) = c :: rstrip r := by rw [rstrip_cons, blank_cons, hc]; rfl
    refine Or.inr ⟨c, rstrip r, hr, hc, ?_⟩
    rw [← hr]
    exact lastNonWs_rstrip _ (by rw [hr]; exact List.cons_ne_nil _ _)

theorem lastNonWs_not_blank {l : Text} (h : lastNonWs l = true) : blank l = false := by
  fun_induction lastNonWs l with
  | case1 => cases h
  | case2 c => simpa [blank] using h
  | case3 _ c cs ih => rw [blank_cons, ih h, Bool.and_false]

theorem splitNl_last_nonblank (t : Text) (h : lastNonWs t = true) :
    ∀ x, (splitNl t).getLast? = some x → blank x = false := by
  fun_induction lastNonWs t with
  | case1 => cases h
  | case2 c =>
    have hc : isWs c = false := by simpa using h
    rw [splitNl_cons_of_ne (ne_nl_of_not_ws hc) (cs := []) rfl]
    simp [blank, hc]
  | case3 c d ds ih =>
    obtain ⟨l, ls, hs, hc⟩ := splitNl_cons c (d :: ds)
    have ih := ih h
    rw [hs] at ih
    rw [hc]
    split
    · exact ih
    · cases ls with
      | nil =>
        intro x hx
        rw [List.getLast?_singleton, Option.some.injEq] at hx
        rw [← hx, blank_cons, ih l rfl, Bool.and_false]
      | cons m rest => exact ih

theorem sblTail_ne_nil (ls : List Line) (h : ls ≠ []) : sblTail ls ≠ [] := by
  fun_induction sblTail ls with
  | case1 => exact h
  | case2 l => exact List.cons_ne_nil _ _
  | case3 l m rest hb ih => exact ih (List.cons_ne_nil _ _)
  | case4 l m rest hb ih => exact List.cons_ne_nil _ _

theorem mem_sblTail {x : Line} (ls : List Line) (h : x ∈ sblTail ls) :
    (∃ l ∈ ls, blank l = false ∧ x = rstrip l) ∨ ls.getLast? = some x := by
  fun_induction sblTail ls with
  | case1 => cases h
  | case2 l => exact Or.inr (by simpa [eq_comm] using h)
  | case3 l m rest hb ih =>
    rw [List.getLast?_cons_cons]
    exact (ih h).imp_left fun ⟨l', hl', hb⟩ => ⟨l', List.mem_cons_of_mem l hl', hb⟩
  | case4 l m rest hb ih =>
    rw [List.getLast?_cons_cons]
    rcases List.mem_cons.mp h with rfl | h
    · exact Or.inl ⟨l, List.mem_cons_self, by simpa using hb, rfl⟩
    · exact (ih h).imp_left fun ⟨l', hl', hb⟩ => ⟨l', List.mem_cons_of_mem l hl', hb⟩

theorem mem_sblLines {x : Line} (ls : List Line) (h : x ∈ sblLines ls) :
    (∃ l ∈ ls, (ls.head? = some l ∨ blank l = false) ∧ x = rstrip l) ∨ ls.getLast? = some x := by
  fun_cases sblLines ls with
  | case1 => cases h
  | case2 l => exact Or.inr (by simpa [sblLines, eq_comm] using h)
  | case3 l m rest =>
    rw [List.getLast?_cons_cons]
    rcases List.mem_cons.mp h with rfl | h
    · exact Or.inl ⟨l, List.mem_cons_self, Or.inl rfl, rfl⟩
    · exact (mem_sblTail (m :: rest) h).imp_left
        fun ⟨l', hl', hb, hx⟩ => ⟨l', List.mem_cons_of_mem l hl', Or.inr hb, hx⟩

theorem sblLines_no_nl (ls : List Line) (h : ∀ l ∈ ls, '\n' ∉ l) : ∀ l ∈ sblLines ls, '\n' ∉ l := by
  intro x hx
  rcases mem_sblLines _ hx with ⟨l, hl, _, rfl⟩ | hx
  · exact fun hc => h l hl ((rstrip_prefix l).subset hc)
  · exact h x (List.mem_of_getLast? hx)

theorem sblLines_ne_nil (ls : List Line) (h : ls ≠ []) : sblLines ls ≠ [] := by
  fun_cases sblLines ls with
  | case1 => exact h
  | case2 l => exact List.cons_ne_nil _ _
  | case3 l m rest => exact List.cons_ne_nil _ _

-- `sblTail` and `sblLines` on a line followed by at least one more, whatever its shape.
theorem sblTail_cons (l : Line) {S : List Line} (h : S ≠ []) :
    sblTail (l :: S) = if blank l then sblTail S else rstrip l :: sblTail S := by
  cases S with
  | nil => exact absurd rfl h
  | cons m rest => rfl

theorem sblLines_cons (l : Line) {S : List Line} (h : S ≠ []) :
    sblLines (l :: S) = rstrip l :: sblTail S := by
  cases S with
  | nil => exact absurd rfl h
  | cons m rest => rfl

theorem sblTail_idem (ls : List Line) : sblTail (sblTail ls) = sblTail ls := by
  fun_induction sblTail ls with
  | case1 => rfl
  | case2 l => rfl
  | case3 l m rest hb ih => exact ih
  | case4 l m rest hb ih =>
    rw [sblTail_cons _ (sblTail_ne_nil _ (List.cons_ne_nil _ _)), blank_rstrip, if_neg hb, rstrip_rstrip, ih]

theorem sblLines_idem (ls : List Line) : sblLines (sblLines ls) = sblLines ls := by
  fun_cases sblLines ls with
  | case1 => rfl
  | case2 l => rfl
  | case3 l m rest => rw [sblLines_cons _ (sblTail_ne_nil _ (List.cons_ne_nil _ _)), rstrip_rstrip, sblTail_idem]

theorem supPassLines_sublist (ls : List Line) : (supPassLines ls).Sublist ls := by
  fun_induction supPassLines ls with
  | case1 => exact .slnil
  | case2 l => exact List.Sublist.refl _
  | case3 l m rest k hk ht ih => exact ih.cons l
  | case4 l m rest k hk ht ih => exact ih.cons_cons l
  | case5 l m rest hk ih => exact ih.cons_cons l

theorem supPassLines_ne_nil (ls : List Line) (h : ls ≠ []) : supPassLines ls ≠ [] := by
  fun_induction supPassLines ls with
  | case1 => exact absurd rfl h
  | case2 l => simp
  | case3 l m rest k hk ht ih => exact ih (by simp)
  | case4 l m rest k hk ht ih => simp
  | case5 l m rest hk ih => simp

-- `passTarget` and `supPassLines` on a line followed by at least one more, whatever its shape.
theorem passTarget_cons (k : Nat) (m : Line) {S : List Line} (h : S ≠ []) :
    passTarget k (m :: S) = if isCommentLine m then passTarget k S else siblingAt k m false := by
  cases S with
  | nil => exact absurd rfl h
  | cons m' rest => rfl

theorem supPassLines_cons (l : Line) {S : List Line} (h : S ≠ []) :
    supPassLines (l :: S) =
      match passIndent? l with
      | some k => if passTarget k S then supPassLines S else l :: supPassLines S
      | none => l :: supPassLines S := by
  cases S with
  | nil => exact absurd rfl h
  | cons m rest => rfl

theorem siblingAt_indent {k : Nat} {m : Line} {b : Bool} (h : siblingAt k m b = true) : k = indentOf m := by
  unfold siblingAt at h
  simp only [Bool.and_eq_true, beq_iff_eq] at h
  exact h.1.symm

theorem passTarget_unique (S : List Line) (k k' : Nat) (h : passTarget k S = true) (h' : passTarget k' S = true) :
    k = k' := by
  fun_induction passTarget k S with
  | case1 => cases h
  | case2 m => rw [siblingAt_indent h, siblingAt_indent h']
  | case3 m m' rest hc ih =>
    rw [passTarget, if_pos hc] at h'
    exact ih h h'
  | case4 m m' rest hc =>
    rw [passTarget, if_neg hc] at h'
    rw [siblingAt_indent h, siblingAt_indent h']

theorem passLine_spec {m : Line} {k' : Nat} (h : passIndent? m = some k') :
    isCommentLine m = false ∧ ∀ k b, siblingAt k m b = (k' == k) := by
  unfold passIndent? at h
  split at h
  · rename_i hd
    rw [String.toList_ofList] at hd
    cases h
    exact ⟨by rw [isCommentLine, hd]; rfl, fun k b => by rw [siblingAt, hd]; exact Bool.and_true _⟩
  · cases h

theorem passTarget_supPassLines (k : Nat) (S : List Line) :
    passTarget k (supPassLines S) = passTarget k S := by
  fun_induction supPassLines S with
  | case1 => rfl
  | case2 l => rfl
  | case3 l m rest k0 hk ht ih =>
    -- the removed `pass` line `l` was a sibling at `k0` only, and the look-ahead succeeds for `k0` only
    obtain ⟨hc, hs⟩ := passLine_spec hk
    rw [ih, passTarget, if_neg (by simp [hc]), hs]
    cases h : passTarget k (m :: rest) with
    | true => rw [passTarget_unique _ _ _ ht h, beq_self_eq_true]
    | false => exact (beq_eq_false_iff_ne.mpr fun hkk => by rw [hkk, h] at ht; cases ht).symm
  | case4 l m rest k0 hk ht ih =>
    rw [passTarget_cons k l (supPassLines_ne_nil _ (List.cons_ne_nil _ _)), ih, passTarget]
  | case5 l m rest hk ih =>
    rw [passTarget_cons k l (supPassLines_ne_nil _ (List.cons_ne_nil _ _)), ih, passTarget]

theorem supPassLines_idem (ls : List Line) : supPassLines (supPassLines ls) = supPassLines ls := by
  fun_induction supPassLines ls with
  | case1 => rfl
  | case2 l => rfl
  | case3 l m rest k hk ht ih => exact ih
  | case4 l m rest k hk ht ih =>
    rw [supPassLines_cons l (supPassLines_ne_nil _ (List.cons_ne_nil _ _)), hk]
    simp only [passTarget_supPassLines, ht, Bool.false_eq_true, if_false, ih]
  | case5 l m rest hk ih =>
    rw [supPassLines_cons l (supPassLines_ne_nil _ (List.cons_ne_nil _ _)), hk, ih]

theorem normAux_marker (skip : Nat) (s : Text) (h : (normAux skip s).2 ≠ 0) :
    ∃ a b, (normAux skip s).1 = a ++ hintMarker ++ b := by
  fun_induction normAux skip s with
  | case1 => exact absurd rfl h
  | case2 skip c cs ih => exact ih h
  | case3 c cs rest hm r ih => exact ⟨[], r.1, by simp⟩
  | case4 c cs hm r ih =>
    obtain ⟨a, b, hab⟩ := ih h
    exact ⟨c :: a, b, congrArg (List.cons c) hab⟩

theorem normAux_zero_count (s : Text) :
    (normAux 0 s).2 ≠ 0 ↔ ∃ a b, s = a ++ b ∧ (markerRest? b).isSome = true := by
  induction s with
  | nil =>
    refine iff_of_false (fun h => h rfl) ?_
    rintro ⟨a, b, h, hb⟩
    obtain ⟨-, rfl⟩ := List.append_eq_nil_iff.mp h.symm
    cases hb
  | cons c cs ih =>
    rw [normAux]
    cases hm : markerRest? (c :: cs) with
    | some rest => exact iff_of_true (Nat.succ_ne_zero _) ⟨[], c :: cs, rfl, by rw [hm]; rfl⟩
    | none =>
      refine ih.trans ⟨fun ⟨a, b, h, hb⟩ => ⟨c :: a, b, by rw [h]; rfl, hb⟩, ?_⟩
      rintro ⟨a, b, h, hb⟩
      cases a with
      | nil => obtain rfl : c :: cs = b := h; rw [hm] at hb; cases hb
      | cons x xs => exact ⟨xs, b, (List.cons.inj h).2, hb⟩

def startsWithHash (l : Line) : Bool := l.head? == some '#'

theorem dropPrefixCI?_append (p a r x : Text) (h : dropPrefixCI? p a = some r) :
    dropPrefixCI? p (a ++ x) = some (r ++ x) := by
  fun_induction dropPrefixCI? p a with
  | case1 s =>
    cases h
    rfl
  | case2 => cases h
  | case3 p b s ih =>
    rw [List.cons_append, dropPrefixCI?, if_pos rfl]
    exact ih h
  | case4 a p b s hc => cases h

theorem skipWs_append_of_ne_nil (a x : Text) (h : skipWs a ≠ []) : skipWs (a ++ x) = skipWs a ++ x := by
  unfold skipWs at h ⊢
  rw [List.dropWhile_append, if_neg (by rwa [List.isEmpty_iff])]

/-- `markerRest?` and `hintAhead` read the same regex, the one from its `#` on, the other after it. -/
theorem markerRest?_isSome (b : Text) :
    (markerRest? b).isSome = true ↔ ∃ tl, b = '#' :: tl ∧ hintAhead tl = true := by
  unfold markerRest?
  split
  · simp only [List.cons.injEq, true_and, exists_eq_left', hintAhead]
    split
    · split <;> simp
    · simp
  · rename_i hb
    simp only [Option.isSome_none, Bool.false_eq_true, false_iff, not_exists, not_and]
    exact fun tl h => absurd h (hb tl)

theorem hintAhead_append (tl x : Text) (h : hintAhead tl = true) : hintAhead (tl ++ x) = true := by
  unfold hintAhead at h ⊢
  split at h
  · rename_i r2 h1
    split at h
    · rename_i r3 h2
      have hne : skipWs tl ≠ [] := by
        intro he
        rw [he, String.toList_ofList] at h1
        cases h1
      rw [skipWs_append_of_ne_nil tl x hne, dropPrefixCI?_append _ _ _ x h1]
      simp only
      rw [skipWs_append_of_ne_nil r2 x (by rw [h2]; exact List.cons_ne_nil _ _), h2]
      rfl
    · cases h
  · cases h

theorem hashScan_of_hintAhead (a tl x : Text) (ha : '\n' ∉ a) (h : hintAhead tl = true) :
    hashScan (a ++ '#' :: tl ++ x) = true := by
  induction a with
  | nil =>
    simp only [List.nil_append, List.cons_append, hashScan]
    rw [if_neg (by decide), hintAhead_append tl x h]; rfl
  | cons c cs ih =>
    rw [List.mem_cons, not_or] at ha
    simp only [List.cons_append, hashScan, if_neg (Ne.symm ha.1)]
    rw [ih ha.2, Bool.or_true]

theorem isHint_false_of_hintAheadAny (tl x : Text) (hn : '\n' ∉ tl) (h : hintAheadAny (tl ++ x) = false) :
    isHint ('#' :: tl) = false := by
  refine Bool.eq_false_iff.mpr fun hh => ?_
  have hc : (normAux 0 ('#' :: tl)).2 ≠ 0 := by simpa [isHint, normalizeComment] using hh
  obtain ⟨a, b, hab, hb⟩ := (normAux_zero_count ('#' :: tl)).mp hc
  obtain ⟨btl, rfl, ht⟩ := (markerRest?_isSome b).mp hb
  unfold hintAheadAny at h
  cases a with
  | nil => cases hab; rw [hintAhead_append _ x ht] at h; cases h
  | cons a0 a' =>
    rw [List.cons_append, List.cons.injEq] at hab
    obtain ⟨_, rfl⟩ := hab
    rw [hashScan_of_hintAhead a' btl x (fun h' => hn (List.mem_append_left _ h')) ht, Bool.or_true] at h
    cases h

theorem dropLeadingComments_spec (ls : List Line) (hnl : ∀ l ∈ ls, '\n' ∉ l) :
    ∃ d, ls = d ++ dropLeadingComments ls ∧
      (∀ l ∈ d, l ∈ ls.takeWhile startsWithHash ∧ isHint l = false) ∧
      (ls ≠ [] → dropLeadingComments ls ≠ []) := by
  fun_induction dropLeadingComments ls with
  | case1 => exact ⟨[], by simp⟩
  | case2 l => exact ⟨[], by simp⟩
  | case3 l m rest hh ih =>
    obtain ⟨hl, hrest⟩ := List.forall_mem_cons.mp hnl
    obtain ⟨d, hd, hmem, hne⟩ := ih hrest
    cases l with
    | nil => cases hh.1
    | cons c tl =>
      obtain ⟨hhead, hah⟩ := hh
      cases hhead
      rw [List.tail_cons, joinNl_cons_cons] at hah
      refine ⟨('#' :: tl) :: d, congrArg _ hd, ?_, fun _ => hne (List.cons_ne_nil _ _)⟩
      rw [List.takeWhile_cons, if_pos (by rfl : startsWithHash ('#' :: tl) = true)]
      refine List.forall_mem_cons.mpr ⟨⟨List.mem_cons_self, ?_⟩,
        fun x hx => ⟨List.mem_cons_of_mem _ (hmem x hx).1, (hmem x hx).2⟩⟩
      exact isHint_false_of_hintAheadAny tl _ (fun h' => hl (List.mem_cons_of_mem _ h')) hah
  | case4 l m rest hh => exact ⟨[], by simp⟩

theorem dropGuards_append (ls : List Line) (xs ys : List IfStmt) :
    dropGuards ls (xs ++ ys) = dropGuards (dropGuards ls xs) ys := by
  induction xs generalizing ls with
  | nil => rfl
  | cons x xs ih =>
    simp only [List.cons_append, dropGuards]
    exact ih _

theorem delRange_append (P B K : List Line) (a b : Nat) (hP : P.length = a - 1)
    (hB : (P ++ B).length = b) : delRange (P ++ B ++ K) a b = P ++ K := by
  unfold delRange
  rw [List.append_assoc, List.take_left' hP, ← List.append_assoc, List.drop_left' hB]

/-- One step of the walk through the source. Under the parser's guarantees the lines are those before
the first statement, its block and the rest, and every line number is a sum of lengths. -/
theorem keepOutsideGuards_cons {pos : Nat} {ls : List Line} {a b : Nat} {g : Bool} {rest : List IfStmt}
    (h : RangesOk pos ls.length (⟨a, b, g⟩ :: rest)) :
    ∃ A B C, ls = A ++ B ++ C ∧ a = pos + A.length + 1 ∧ b = pos + A.length + B.length ∧ B ≠ [] ∧
      RangesOk b C.length rest ∧
      keepOutsideGuards pos ls (⟨a, b, g⟩ :: rest) =
        A ++ (if g then [] else B) ++ keepOutsideGuards b C rest := by
  obtain ⟨h1, h2, h3, hrest⟩ := h
  dsimp only at h1 h2 h3 hrest
  -- `a = pos + i + 1` and `b = a + k`: the three segments are `i`, `1 + k` and the remaining lines long
  obtain ⟨i, rfl⟩ := Nat.exists_eq_add_of_lt h1
  obtain ⟨k, rfl⟩ := Nat.exists_eq_add_of_le h2
  have e1 : pos + i + 1 - 1 - pos = i := by rw [Nat.add_sub_cancel, Nat.add_sub_cancel_left]
  have e2 : pos + i + 1 + k - (pos + i + 1 - 1) = 1 + k := by
    rw [Nat.add_sub_cancel, Nat.add_assoc (pos + i), Nat.add_sub_cancel_left]
  have e3 : pos + i + 1 + k - pos = i + (1 + k) := by
    rw [Nat.add_assoc, Nat.add_assoc, Nat.add_sub_cancel_left]
  have hlen : i + (1 + k) ≤ ls.length := by
    rw [Nat.add_assoc, Nat.add_assoc] at h3; exact Nat.le_of_add_le_add_left h3
  have hA : (ls.take i).length = i := List.length_take_of_le (Nat.le_trans (Nat.le_add_right _ _) hlen)
  have hB : ((ls.drop i).take (1 + k)).length = 1 + k :=
    List.length_take_of_le (by rw [List.length_drop]; exact Nat.le_sub_of_add_le' hlen)
  refine ⟨ls.take i, (ls.drop i).take (1 + k), ls.drop (i + (1 + k)), ?_, ?_, ?_, ?_, ?_, ?_⟩
  · rw [← List.take_add, List.take_append_drop]
  · rw [hA]
  · rw [hA, hB, Nat.add_assoc (pos + i)]
  · exact fun h0 => by rw [h0, Nat.add_comm] at hB; cases hB
  · rwa [List.length_drop, ← e3]
  · simp only [keepOutsideGuards, e1, e2, e3]

/-- Deleting the guarded blocks from the last to the first = walking through the source and keeping
what is outside them. -/
theorem dropGuards_reverse (ifs : List IfStmt) : ∀ (pos : Nat) (ls pre : List Line),
    pre.length = pos → RangesOk pos ls.length ifs →
    dropGuards (pre ++ ls) ifs.reverse = pre ++ keepOutsideGuards pos ls ifs := by
  induction ifs with
  | nil => intro pos ls pre _ _; rfl
  | cons r rest ih =>
    obtain ⟨a, b, g⟩ := r
    intro pos ls pre hpre hok
    obtain ⟨A, B, C, rfl, ha, hb, -, hrest, hk⟩ := keepOutsideGuards_cons hok
    have hP : (pre ++ A).length = a - 1 := by rw [List.length_append, hpre, ha]; rfl
    have hPB : (pre ++ A ++ B).length = b := by rw [List.length_append, List.length_append, hpre, hb]
    -- the deletions after line `b` leave the lines up to `b` alone
    have ihh := ih b C (pre ++ A ++ B) hPB hrest
    rw [hk, List.reverse_cons, dropGuards_append, ← List.append_assoc, ← List.append_assoc, ihh]
    simp only [dropGuards]
    cases g
    · simp only [Bool.false_eq_true, if_false, List.append_assoc]
    · rw [if_pos rfl, if_pos rfl, delRange_append _ _ _ a b hP hPB]
      simp only [List.append_assoc, List.append_nil]

theorem dropInjectionStmts_append (ls : List Line) (xs ys : List Stmt) :
    dropInjectionStmts ls (xs ++ ys) = dropInjectionStmts (dropInjectionStmts ls xs) ys := by
  induction xs generalizing ls with
  | nil => rfl
  | cons x xs ih =>
    simp only [List.cons_append, dropInjectionStmts]
    exact ih _

theorem getD_append_lt {α : Type} (p x : List α) (i : Nat) (d : α) (h : i < p.length) :
    (p ++ x).getD i d = p.getD i d := by
  simp only [List.getD_eq_getElem?_getD, List.getElem?_append_left h]

theorem getD_append_add {α : Type} (p x : List α) (i : Nat) (d : α) :
    (p ++ x).getD (p.length + i) d = x.getD i d := by
  simp only [List.getD_eq_getElem?_getD, List.getElem?_append_right (Nat.le_add_right _ _),
    Nat.add_sub_cancel_left]

/-- Under the parser's guarantees the injection pass is the guard pass on the marks: when the loop
comes to a statement, the lines up to its end are still those of the source (`dropGuards_reverse`), so
the test of its first line reads the line of the source. -/
theorem dropInjectionStmts_eq_dropGuards (L : List Line) (ss : List Stmt) :
    ∀ (pos : Nat) (ls pre : List Line), pre.length = pos → L = pre ++ ls →
    RangesOk pos ls.length (injectionMarks L ss) →
    dropInjectionStmts L ss.reverse = dropGuards L (injectionMarks L ss).reverse := by
  induction ss with
  | nil => intro _ _ _ _ _ _; rfl
  | cons s rest ih =>
    obtain ⟨a, b, c0⟩ := s
    intro pos ls pre hpre hL hok
    cases c0 with
    | false =>
      rw [List.reverse_cons, dropInjectionStmts_append, ih pos ls pre hpre hL hok]
      rfl
    | true =>
      have hm : injectionMarks L (⟨a, b, true⟩ :: rest) =
          ⟨a, b, isInjection (L.getD (a - 1) [])⟩ :: injectionMarks L rest := rfl
      rw [hm] at hok ⊢
      obtain ⟨A, B, C, rfl, ha, hb, hB, hrest, -⟩ := keepOutsideGuards_cons hok
      have hPB : (pre ++ A ++ B).length = b := by rw [List.length_append, List.length_append, hpre, hb]
      have hL' : L = pre ++ A ++ B ++ C := by rw [hL]; simp only [List.append_assoc]
      have hX := dropGuards_reverse _ b C _ hPB hrest
      rw [← hL'] at hX
      have hline : (dropGuards L (injectionMarks L rest).reverse).getD (a - 1) [] = L.getD (a - 1) [] := by
        have hlt : a - 1 < (pre ++ A ++ B).length := by
          rw [hPB, hb, ha, Nat.add_sub_cancel]
          exact Nat.add_lt_add_left (List.length_pos_iff.mpr hB) _
        rw [hX, getD_append_lt _ _ _ _ hlt]; conv => rhs; rw [hL', getD_append_lt _ _ _ _ hlt]
      rw [List.reverse_cons, List.reverse_cons, dropInjectionStmts_append, dropGuards_append,
        ih b C _ hPB hL' hrest]
      simp only [dropInjectionStmts, dropGuards, stmtIsInjection, Bool.true_and, hline]

theorem splitNl_suppressBlankLines (t : Text) : splitNl (suppressBlankLines t) = sblLines (splitNl t) :=
  splitNl_joinNl _ (sblLines_ne_nil _ (splitNl_ne_nil _)) (sblLines_no_nl _ (splitNl_no_nl _))

theorem splitNl_suppressUselessPass (t : Text) :
    splitNl (suppressUselessPass t) = supPassLines (splitNl t) :=
  splitNl_joinNl _ (supPassLines_ne_nil _ (splitNl_ne_nil _))
    fun _ hl => splitNl_no_nl t _ ((supPassLines_sublist _).subset hl)

/-- After `strip` the first and the last line are not blank; `suppress_blank_lines` then leaves no
blank line, and `suppress_useless_pass_statements` only removes lines. -/
theorem finish_noBlankLine (s : Text) : NoBlankLine (finish s) := by
  rcases strip_spec s with h | ⟨c, r, h, hc, hl⟩
  · left
    simp [finish, h, suppressBlankLines, suppressUselessPass, splitNl, sblLines, joinNl, supPassLines]
  · right
    rw [finish, splitNl_suppressUselessPass, splitNl_suppressBlankLines, h]
    intro x hx
    rcases mem_sblLines _ ((supPassLines_sublist _).subset hx) with ⟨l, _, hl', rfl⟩ | hx
    · rw [blank_rstrip]
      rcases hl' with hh | hb
      · obtain ⟨l', ls, _, hs⟩ := splitNl_cons c r
        rw [hs, if_neg (ne_nl_of_not_ws hc)] at hh
        rw [← Option.some.inj hh, blank_cons, hc]; rfl
      · exact hb
    · exact splitNl_last_nonblank _ hl x hx

end Paroxy.Cleanup
