/- `update_filter` in the terms of Spec/Filter.lean: the set a criterion contributes holds the programs that meet it
(`criterionPrograms_spec`), and `include` / `exclude` narrow the selection to a condition on the criteria and change
nothing else (`Narrows`). -/
import Paroxy.Spec.Filter
import Paroxy.Proofs.Dict
namespace Paroxy.Filter
open Paroxy

/-- Pointwise relation between two lists (core Lean has no `Forall₂`). -/
inductive All2 {α β} (R : α → β → Prop) : List α → List β → Prop
  | nil : All2 R [] []
  | cons {a b l r} : R a b → All2 R l r → All2 R (a :: l) (b :: r)

theorem All2.mem_right {α β} {R : α → β → Prop} {l : List α} {r : List β}
    (h : All2 R l r) {b : β} (hb : b ∈ r) : ∃ a ∈ l, R a b := by
  induction h with
  | nil => cases hb
  | cons hab _ ih =>
    rcases List.mem_cons.mp hb with rfl | hb'
    · exact ⟨_, List.mem_cons_self, hab⟩
    · obtain ⟨a, ha, hr⟩ := ih hb'; exact ⟨a, List.mem_cons_of_mem _ ha, hr⟩

theorem All2.flip {α β} {R : α → β → Prop} {l : List α} {r : List β} (h : All2 R l r) :
    All2 (fun b a => R a b) r l := by
  induction h with
  | nil => exact .nil
  | cons hab _ ih => exact .cons hab ih

theorem All2.mem_left {α β} {R : α → β → Prop} {l : List α} {r : List β}
    (h : All2 R l r) {a : α} (ha : a ∈ l) : ∃ b ∈ r, R a b :=
  h.flip.mem_right ha

theorem All2.map_eq {α β γ} {R : α → β → Prop} {l : List α} {r : List β} {g : α → γ} {g' : β → γ}
    (h : All2 R l r) (hR : ∀ a b, R a b → g' b = g a) : r.map g' = l.map g := by
  induction h with
  | nil => rfl
  | cons hab _ ih => rw [List.map_cons, List.map_cons, hR _ _ hab, ih]

theorem mapE_ok_iff {α β ε} {f : α → Except ε β} {l : List α} {r : List β} :
    mapE f l = .ok r ↔ All2 (fun a b => f a = .ok b) l r := by
  induction l generalizing r with
  | nil =>
    constructor
    · intro h; cases h; exact .nil
    · intro h; cases h; rfl
  | cons a t ih =>
    constructor
    · intro h
      unfold mapE at h
      split at h
      · cases h
      · rename_i b hb
        split at h
        · cases h
        · rename_i bs hbs; cases h; exact .cons hb (ih.mp hbs)
    · intro h
      cases h with
      | cons hb ht => unfold mapE; rw [hb]; simp only; rw [ih.mpr ht]

theorem mapE_error_iff {α β ε} {f : α → Except ε β} {l : List α} :
    (∃ e, mapE f l = .error e) ↔ ∃ a ∈ l, ∃ e, f a = .error e := by
  induction l with
  | nil => simp [mapE]
  | cons a t ih =>
    unfold mapE
    cases hfa : f a with
    | error e => exact ⟨fun _ => ⟨a, List.mem_cons_self, e, hfa⟩, fun _ => ⟨e, rfl⟩⟩
    | ok b =>
      simp only
      cases hm : mapE f t with
      | error e =>
        obtain ⟨a', ha', e', he'⟩ := ih.mp ⟨e, hm⟩
        exact ⟨fun _ => ⟨a', List.mem_cons_of_mem _ ha', e', he'⟩, fun _ => ⟨e, rfl⟩⟩
      | ok bs =>
        constructor
        · rintro ⟨e, he⟩; cases he
        · rintro ⟨a', ha', e', he'⟩
          rcases List.mem_cons.mp ha' with rfl | ha''
          · rw [hfa] at he'; cases he'
          · have := ih.mpr ⟨a', ha'', e', he'⟩
            rw [hm] at this; obtain ⟨e, he⟩ := this; cases he

theorem contains_false_iff (l : List Codes) (p : Codes) : l.contains p = false ↔ p ∉ l := by
  rw [← Bool.not_eq_true, List.contains_iff_mem]

theorem mem_taxaOfPattern (c : Ctx) (pat t : Codes) :
    t ∈ taxaOfPattern c pat ↔ t ∈ c.taxa.map (·.1) ∧ c.orc.matchTaxon pat t = true :=
  List.mem_filter

theorem mem_programsOfPattern (c : Ctx) (pat p : Codes) :
    p ∈ programsOfPattern c pat ↔ IsProgram c p ∧ c.orc.matchProg pat p = true :=
  List.mem_filter

theorem mem_direct (c : Ctx) (wf : c.WF) (pat p : Codes) :
    p ∈ (taxaOfPattern c pat).flatMap (fun t => (dictGet? c.taxa t).getD []) ↔
      ∃ t, c.orc.matchTaxon pat t = true ∧ Features c p t := by
  simp only [List.mem_flatMap, mem_taxaOfPattern]
  constructor
  · rintro ⟨t, ⟨_, hm⟩, hp⟩
    exact ⟨t, hm, (wf.index t p).mp hp⟩
  · rintro ⟨t, hm, hf⟩
    exact ⟨t, ⟨wf.indexKey t p hf, hm⟩, (wf.index t p).mpr hf⟩

theorem programsOfTaxa_false (c : Ctx) (taxa : List Codes) :
    programsOfTaxa c taxa false = some (taxa.flatMap fun t => (dictGet? c.taxa t).getD []) := rfl

/-- With `follow`, the lookup of the exporters succeeds by `exportTotal`. -/
theorem programsOfTaxa_true (c : Ctx) (wf : c.WF) (pat : Codes) :
    ∃ l, programsOfTaxa c (taxaOfPattern c pat) true = some l ∧
      ∀ p, p ∈ l ↔ (∃ t, c.orc.matchTaxon pat t = true ∧ Features c p t) ∨
        ∃ q, (∃ t, c.orc.matchTaxon pat t = true ∧ Features c q t) ∧ Imports c p q := by
  have hall : ((taxaOfPattern c pat).flatMap fun t => (dictGet? c.taxa t).getD []).all
      (fun p => (dictGet? c.exportations p).isSome) = true := by
    rw [List.all_eq_true]
    intro p hp
    obtain ⟨t, _, i, s, rec, spans, hr, _⟩ := (mem_direct c wf pat p).mp hp
    exact wf.exportTotal p (wf.recProgram p rec hr)
  refine ⟨_, by simp only [programsOfTaxa, if_true, hall]; rfl, fun p => ?_⟩
  simp only [List.mem_append, List.mem_flatMap, mem_direct c wf]
  exact Iff.rfl

theorem mem_occurrences (rec : TaxaSpans) (taxa : List Codes) (t : Codes) (i : Nat) (s : Span) :
    (t, i, s) ∈ occurrences rec taxa ↔
      t ∈ taxa ∧ ∃ spans, dictGet? rec t = some spans ∧ spans[i]? = some s := by
  simp only [occurrences, List.mem_flatMap]
  constructor
  · rintro ⟨t', ht', h⟩
    split at h
    · cases h
    · rename_i spans hs
      simp only [List.mem_map, Prod.mk.injEq] at h
      obtain ⟨⟨s', i'⟩, hm, rfl, rfl, rfl⟩ := h
      exact ⟨ht', spans, hs, List.mem_zipIdx_iff_getElem?.mp hm⟩
  · rintro ⟨ht, spans, hs, hi⟩
    refine ⟨t, ht, ?_⟩
    rw [hs]
    exact List.mem_map.mpr ⟨(s, i), List.mem_zipIdx_iff_getElem?.mpr hi, rfl⟩

theorem occ_iff (c : Ctx) (p : Codes) (rec : TaxaSpans) (hr : dictGet? c.programs p = some rec)
    (t : Codes) (i : Nat) (s : Span) :
    Occ c p t i s ↔ ∃ spans, dictGet? rec t = some spans ∧ spans[i]? = some s := by
  constructor
  · rintro ⟨rec', spans, hr', hs, hi⟩
    rw [hr] at hr'; cases hr'; exact ⟨spans, hs, hi⟩
  · rintro ⟨spans, hs, hi⟩; exact ⟨rec, spans, hr, hs, hi⟩

theorem mem_occurrences_pattern (c : Ctx) (wf : c.WF) {p : Codes} {rec : TaxaSpans}
    (hr : dictGet? c.programs p = some rec) (pat t : Codes) (i : Nat) (s : Span) :
    (t, i, s) ∈ occurrences rec (taxaOfPattern c pat) ↔ c.orc.matchTaxon pat t = true ∧ Occ c p t i s := by
  rw [mem_occurrences, mem_taxaOfPattern, ← occ_iff c p rec hr]
  exact ⟨fun ⟨⟨_, hm⟩, ho⟩ => ⟨hm, ho⟩, fun ⟨hm, ho⟩ => ⟨⟨wf.indexKey t p ⟨i, s, ho⟩, hm⟩, ho⟩⟩

theorem mem_spanPairs (rec : TaxaSpans) (taxa1 taxa2 : List Codes) (s1 s2 : Span) :
    (s1, s2) ∈ spanPairs rec taxa1 taxa2 ↔
      ∃ t1 i t2 j, (t1, i, s1) ∈ occurrences rec taxa1 ∧ (t2, j, s2) ∈ occurrences rec taxa2 ∧
        ¬(t1 = t2 ∧ i = j) := by
  simp only [spanPairs, List.mem_flatMap, List.mem_filterMap]
  constructor
  · rintro ⟨⟨t1, i, s1'⟩, h1, ⟨t2, j, s2'⟩, h2, hite⟩
    split at hite
    · cases hite
    · rename_i hne
      cases hite
      exact ⟨t1, i, t2, j, h1, h2, hne⟩
  · rintro ⟨t1, i, t2, j, h1, h2, hne⟩
    exact ⟨(t1, i, s1), h1, (t2, j, s2), h2, if_neg hne⟩

theorem any_not_any_occurrences (occ1 occ2 : List (Codes × Nat × Span)) (pred : Span → Span → Bool) :
    (occ1.any fun (t1, i1, s1) => !(occ2.any fun (t2, i2, s2) => !(t1 = t2 ∧ i1 = i2) && pred s1 s2)) = true ↔
      ∃ t1 i s1, (t1, i, s1) ∈ occ1 ∧
        ∀ t2 j s2, (t2, j, s2) ∈ occ2 → ¬(t1 = t2 ∧ i = j) → pred s1 s2 = false := by
  simp only [List.any_eq_true, Bool.not_eq_true', List.any_eq_false, Prod.exists, Prod.forall,
    Bool.and_eq_true, decide_eq_false_iff_not, Bool.not_eq_true, not_and]

theorem mem_programsOfTriple (c : Ctx) (wf : c.WF) (p1 p2 : Codes) (pred : Span → Span → Bool) (p : Codes) :
    p ∈ programsOfTriple c p1 pred p2 ↔ MeetsTriple c p1 pred p2 p := by
  unfold programsOfTriple MeetsTriple
  simp only [List.mem_filter, List.contains_iff_mem, mem_direct c wf]
  constructor
  · rintro ⟨_, h⟩
    split at h
    · cases h
    · rename_i rec hr
      obtain ⟨⟨s1, s2⟩, hm, hp⟩ := List.any_eq_true.mp h
      obtain ⟨t1, i, t2, j, h1, h2, hne⟩ := (mem_spanPairs ..).mp hm
      obtain ⟨hm1, ho1⟩ := (mem_occurrences_pattern c wf hr ..).mp h1
      obtain ⟨hm2, ho2⟩ := (mem_occurrences_pattern c wf hr ..).mp h2
      exact ⟨t1, i, s1, t2, j, s2, hm1, hm2, ho1, ho2, hne, hp⟩
  · rintro ⟨t1, i, s1, t2, j, s2, hm1, hm2, ho1, ho2, hne, hp⟩
    refine ⟨⟨⟨t1, hm1, i, s1, ho1⟩, ⟨t2, hm2, j, s2, ho2⟩⟩, ?_⟩
    obtain ⟨rec, _, hr, _⟩ := id ho1
    rw [hr]
    exact List.any_eq_true.mpr ⟨(s1, s2), (mem_spanPairs ..).mpr ⟨t1, i, t2, j,
      (mem_occurrences_pattern c wf hr ..).mpr ⟨hm1, ho1⟩, (mem_occurrences_pattern c wf hr ..).mpr ⟨hm2, ho2⟩, hne⟩, hp⟩

theorem mem_programsOfNegatedTriple (c : Ctx) (wf : c.WF) (p1 p2 : Codes) (pred : Span → Span → Bool)
    (p : Codes) :
    p ∈ programsOfNegatedTriple c p1 pred p2 ↔ MeetsNegTriple c p1 pred p2 p := by
  unfold programsOfNegatedTriple MeetsNegTriple
  simp only [List.mem_filter, Bool.or_eq_true, Bool.not_eq_true', contains_false_iff, mem_direct c wf]
  constructor
  · rintro ⟨⟨t1, hm1, i, s1, ho1⟩, h | h⟩
    · -- no object taxon at all
      exact ⟨t1, i, s1, hm1, ho1, fun t2 j s2 hm2 ho2 _ => absurd ⟨t2, hm2, j, s2, ho2⟩ h⟩
    · obtain ⟨rec, _, hr, _⟩ := id ho1
      rw [hr] at h
      obtain ⟨t1', i', s1', h1, hall⟩ := (any_not_any_occurrences ..).mp h
      obtain ⟨hm1', ho1'⟩ := (mem_occurrences_pattern c wf hr ..).mp h1
      exact ⟨t1', i', s1', hm1', ho1', fun t2 j s2 hm2 ho2 =>
        hall t2 j s2 ((mem_occurrences_pattern c wf hr ..).mpr ⟨hm2, ho2⟩)⟩
  · rintro ⟨t1, i, s1, hm1, ho1, hall⟩
    refine ⟨⟨t1, hm1, i, s1, ho1⟩, Or.inr ?_⟩
    obtain ⟨rec, _, hr, _⟩ := id ho1
    rw [hr]
    refine (any_not_any_occurrences ..).mpr ⟨t1, i, s1, (mem_occurrences_pattern c wf hr ..).mpr ⟨hm1, ho1⟩,
      fun t2 j s2 h2 => ?_⟩
    obtain ⟨hm2, ho2⟩ := (mem_occurrences_pattern c wf hr ..).mp h2
    exact hall t2 j s2 hm2 ho2

theorem criterionPrograms_pattern (c : Ctx) (r : Relations) (follow : Bool) (pat : Codes) :
    criterionPrograms c r follow (.pattern pat) =
      if endsWithPy pat then .ok (programsOfPattern c pat)
      else match programsOfTaxa c (taxaOfPattern c pat) follow with
        | some l => .ok l
        | none => .error .keyError := rfl

theorem criterionPrograms_triple (c : Ctx) (r : Relations) (follow : Bool) (p1 raw p2 : Codes) :
    criterionPrograms c r follow (.triple p1 raw p2) =
      match r.predicate raw with
      | .error e => .error e
      | .ok (pred, neg) =>
        .ok (if neg then programsOfNegatedTriple c p1 pred p2 else programsOfTriple c p1 pred p2) := rfl

/-- A spelling that normalises to a key found in the table denotes what the entry denotes (`P`), with the
negation flag `normalize` found. Stated on the two fields, so that a particular pair of dictionaries is recognised
by unfolding its definition and not by evaluating the dictionaries. -/
theorem Relations.predicate_of_normalize {names : List (Codes × Codes)} {table : List (Codes × PyExpr)}
    {raw key : Codes} {neg : Bool} {P : Span → Span → Prop}
    (he : ∃ e, dictGet? table key = some e ∧ ∀ x y, e.holds x y = true ↔ P x y)
    (h : NP.normalize names raw = some (key, neg)) :
    ∃ pred, (Relations.mk names table).predicate raw = .ok (pred, neg) ∧ ∀ x y, pred x y = true ↔ P x y := by
  obtain ⟨e, he, hm⟩ := he
  exact ⟨fun x y => e.holds x y, by rw [Relations.predicate, h]; simp only [he], hm⟩

/-- The set a criterion contributes holds the programs that meet it: in the sense of `exclude` when the
importers are followed, of `include` otherwise. -/
theorem criterionPrograms_spec (c : Ctx) (wf : c.WF) (r : Relations) (follow : Bool) (crit : Criterion)
    (S : List Codes) (h : criterionPrograms c r follow crit = .ok S) (p : Codes) :
    p ∈ S ↔ if follow then MeetsExcl c r crit p else Meets c r crit p := by
  cases crit with
  | pattern pat =>
    rw [criterionPrograms_pattern] at h
    unfold MeetsExcl Meets
    by_cases hpy : endsWithPy pat = true
    · simp only [hpy, if_true, ite_self] at h ⊢
      cases h
      exact mem_programsOfPattern c pat p
    · cases follow
      · simp only [hpy, programsOfTaxa_false, Bool.false_eq_true, if_false] at h ⊢
        cases h
        exact mem_direct c wf pat p
      · obtain ⟨l, hl, hmem⟩ := programsOfTaxa_true c wf pat
        simp only [hpy, hl, if_true, Bool.false_eq_true, if_false] at h ⊢
        cases h
        exact hmem p
  | triple p1 raw p2 =>
    rw [criterionPrograms_triple] at h
    rw [show (if follow = true then MeetsExcl c r (.triple p1 raw p2) p else Meets c r (.triple p1 raw p2) p) =
      Meets c r (.triple p1 raw p2) p from ite_self _]
    unfold Meets
    cases hp : r.predicate raw with
    | error e => rw [hp] at h; cases h
    | ok v =>
      obtain ⟨pred, neg⟩ := v
      rw [hp] at h
      cases h
      cases neg
      · simp only [hp]; exact mem_programsOfTriple c wf p1 p2 pred p
      · simp only [hp]; exact mem_programsOfNegatedTriple c wf p1 p2 pred p

theorem criterionPrograms_include (c : Ctx) (wf : c.WF) (r : Relations) (crit : Criterion) (S : List Codes)
    (h : criterionPrograms c r false crit = .ok S) (p : Codes) : p ∈ S ↔ Meets c r crit p :=
  criterionPrograms_spec c wf r false crit S h p

theorem criterionPrograms_exclude (c : Ctx) (wf : c.WF) (r : Relations) (crit : Criterion) (S : List Codes)
    (h : criterionPrograms c r true crit = .ok S) (p : Codes) : p ∈ S ↔ MeetsExcl c r crit p :=
  criterionPrograms_spec c wf r true crit S h p

theorem criterionPrograms_error (c : Ctx) (wf : c.WF) (r : Relations) (follow : Bool) (crit : Criterion) :
    (∃ e, criterionPrograms c r follow crit = .error e) ↔
      ∃ p1 raw p2 e, crit = .triple p1 raw p2 ∧ r.predicate raw = .error e := by
  cases crit with
  | pattern pat =>
    refine ⟨fun ⟨e, he⟩ => ?_, fun ⟨_, _, _, _, h, _⟩ => nomatch h⟩
    rw [criterionPrograms_pattern] at he
    split at he
    · cases he
    · cases follow
      · cases he
      · obtain ⟨l, hl, _⟩ := programsOfTaxa_true c wf pat
        rw [hl] at he; cases he
  | triple p1 raw p2 =>
    rw [criterionPrograms_triple]
    cases hp : r.predicate raw with
    | error e => exact ⟨fun _ => ⟨p1, raw, p2, e, rfl, hp⟩, fun _ => ⟨e, rfl⟩⟩
    | ok v =>
      constructor
      · rintro ⟨e, he⟩; cases he
      · rintro ⟨_, _, _, e, h, he⟩; cases h; rw [hp] at he; cases he

theorem inBag_any (sets : List (List Codes)) (p : Codes) :
    inBag sets false p = true ↔ ∃ S ∈ sets, p ∈ S := by
  simp only [inBag, Bool.false_eq_true, if_false, decide_eq_true_eq, List.length_pos_iff_exists_mem,
    List.mem_filter, List.contains_iff_mem]

theorem inBag_all (sets : List (List Codes)) (p : Codes) :
    inBag sets true p = true ↔ sets ≠ [] ∧ ∀ S ∈ sets, p ∈ S := by
  -- `p` is in all the sets iff filtering the sets by "contains `p`" loses none
  have hle := List.length_filter_le (fun S : List Codes => S.contains p) sets
  have hall : (sets.filter (·.contains p)).length = sets.length ↔ ∀ S ∈ sets, p ∈ S := by
    simp only [List.length_filter_eq_length_iff, List.contains_iff_mem]
  simp only [inBag, if_true, Bool.and_eq_true, decide_eq_true_eq, ← hall, ← List.length_pos_iff]
  omega

theorem mem_bag (sets : List (List Codes)) (qa : Bool) (p : Codes) :
    p ∈ (sets.flatten).filter (inBag sets qa) ↔ inBag sets qa p = true := by
  rw [List.mem_filter, List.mem_flatten, ← inBag_any]
  refine ⟨And.right, fun h => ⟨?_, h⟩⟩
  cases qa
  · exact h
  · simp only [inBag, if_true, Bool.and_eq_true] at h
    exact h.2

/-- Membership in the bag of the criteria's sets, in the terms `M` in which each set is characterised:
what `include` and `exclude`, `any` and `all`, have in common. -/
theorem inBag_mapE {α ε} {f : α → Except ε (List Codes)} {M : α → Codes → Prop} {cs : List α}
    {sets : List (List Codes)} (hM : ∀ a S, f a = .ok S → ∀ p, p ∈ S ↔ M a p) (h : mapE f cs = .ok sets)
    (p : Codes) :
    (inBag sets false p = true ↔ ∃ a ∈ cs, M a p) ∧
    (inBag sets true p = true ↔ cs ≠ [] ∧ ∀ a ∈ cs, M a p) := by
  have h2 := mapE_ok_iff.mp h
  have hne : sets ≠ [] ↔ cs ≠ [] := by cases h2 <;> simp
  rw [inBag_any, inBag_all, hne]
  refine ⟨⟨fun ⟨S, hS, hp⟩ => ?_, fun ⟨a, ha, hq⟩ => ?_⟩, and_congr_right fun _ => ⟨fun hp a ha => ?_, fun hq S hS => ?_⟩⟩
  · obtain ⟨a, ha, hab⟩ := h2.mem_right hS; exact ⟨a, ha, (hM a S hab p).mp hp⟩
  · obtain ⟨S, hS, hab⟩ := h2.mem_left ha; exact ⟨S, hS, (hM a S hab p).mpr hq⟩
  · obtain ⟨S, hS, hab⟩ := h2.mem_left ha; exact (hM a S hab p).mp (hp S hS)
  · obtain ⟨a, ha, hab⟩ := h2.mem_right hS; exact (hM a S hab p).mpr (hq a ha)

/-- `st'` is `st` with the selection narrowed to the programs satisfying `K`, and nothing else changed:
the shape of what `include` and `exclude` do. -/
def Narrows (st st' : State) (K : Codes → Prop) : Prop :=
  (∀ p, p ∈ st'.selected ↔ p ∈ st.selected ∧ K p) ∧
    st'.knowledge = st.knowledge ∧ st'.hiddenTaxa = st.hiddenTaxa ∧ st'.hiddenPrograms = st.hiddenPrograms

/-- `do let a ← x; pure (k a)` on `Except`: what `include` and `exclude` do with the sets of the criteria. -/
theorem bind_pure_ok {ε α β} {x : Except ε α} {k : α → β} {b : β} (h : (x >>= fun a => pure (k a)) = .ok b) :
    ∃ a, x = .ok a ∧ b = k a := by
  cases x with
  | error e => cases h
  | ok a => cases h; exact ⟨a, rfl, rfl⟩

theorem bind_pure_error {ε α β} (x : Except ε α) (k : α → β) (e : ε) :
    (x >>= fun a => pure (k a)) = .error e ↔ x = .error e := by
  cases x with
  | error e' => exact ⟨fun h => by cases h; rfl, fun h => by cases h; rfl⟩
  | ok a => exact ⟨fun h => (by cases h), fun h => (by cases h)⟩

theorem include_ok {c : Ctx} {r : Relations} {st st' : State} {cs : List Criterion} {qa : Bool}
    (h : updateFilter c r st cs .include qa = .ok st') :
    ∃ sets, mapE (criterionPrograms c r false) cs = .ok sets ∧
      st' = { st with selected := st.selected.filter (inBag sets qa) } :=
  bind_pure_ok h

theorem exclude_ok {c : Ctx} {r : Relations} {st st' : State} {cs : List Criterion} {qa : Bool}
    (h : updateFilter c r st cs .exclude qa = .ok st') :
    ∃ sets, mapE (criterionPrograms c r true) cs = .ok sets ∧
      st' = excludePrograms c st ((sets.flatten).filter (inBag sets qa)) true :=
  bind_pure_ok h

theorem include_any_spec (c : Ctx) (wf : c.WF) (r : Relations) (st st' : State) (cs : List Criterion)
    (h : updateFilter c r st cs .include false = .ok st') :
    Narrows st st' fun p => ∃ crit ∈ cs, Meets c r crit p := by
  obtain ⟨sets, hm, rfl⟩ := include_ok h
  refine ⟨fun p => ?_, rfl, rfl, rfl⟩
  rw [List.mem_filter, (inBag_mapE (criterionPrograms_include c wf r) hm p).1]

theorem include_all_spec (c : Ctx) (wf : c.WF) (r : Relations) (st st' : State) (cs : List Criterion)
    (hne : cs ≠ []) (h : updateFilter c r st cs .include true = .ok st') :
    Narrows st st' fun p => ∀ crit ∈ cs, Meets c r crit p := by
  obtain ⟨sets, hm, rfl⟩ := include_ok h
  refine ⟨fun p => ?_, rfl, rfl, rfl⟩
  rw [List.mem_filter, (inBag_mapE (criterionPrograms_include c wf r) hm p).2, and_iff_right hne]

theorem mem_excluded (c : Ctx) (st : State) (bag : List Codes) (p : Codes) {K : Codes → Prop}
    (hbag : ∀ q, q ∈ bag ↔ K q) :
    p ∈ (excludePrograms c st bag true).selected ↔
      p ∈ st.selected ∧ ¬ ∃ q, K q ∧ (q = p ∨ Imports c p q) := by
  simp only [excludePrograms, if_true, List.mem_filter, Bool.not_eq_true', contains_false_iff,
    List.mem_append, List.mem_flatMap, Imports, hbag]
  refine and_congr_right fun _ => not_congr ⟨?_, ?_⟩
  · rintro (hq | ⟨q, hq, hi⟩)
    · exact ⟨p, hq, Or.inl rfl⟩
    · exact ⟨q, hq, Or.inr hi⟩
  · rintro ⟨q, hq, rfl | hi⟩
    · exact Or.inl hq
    · exact Or.inr ⟨q, hq, hi⟩

theorem exclude_any_spec (c : Ctx) (wf : c.WF) (r : Relations) (st st' : State) (cs : List Criterion)
    (h : updateFilter c r st cs .exclude false = .ok st') :
    Narrows st st' fun p => ¬ ∃ q, (∃ crit ∈ cs, MeetsExcl c r crit q) ∧ (q = p ∨ Imports c p q) := by
  obtain ⟨sets, hm, rfl⟩ := exclude_ok h
  refine ⟨fun p => mem_excluded c st _ p fun q => ?_, rfl, rfl, rfl⟩
  rw [mem_bag, (inBag_mapE (criterionPrograms_exclude c wf r) hm q).1]

theorem exclude_all_spec (c : Ctx) (wf : c.WF) (r : Relations) (st st' : State) (cs : List Criterion)
    (hne : cs ≠ []) (h : updateFilter c r st cs .exclude true = .ok st') :
    Narrows st st' fun p => ¬ ∃ q, (∀ crit ∈ cs, MeetsExcl c r crit q) ∧ (q = p ∨ Imports c p q) := by
  obtain ⟨sets, hm, rfl⟩ := exclude_ok h
  refine ⟨fun p => mem_excluded c st _ p fun q => ?_, rfl, rfl, rfl⟩
  rw [mem_bag, (inBag_mapE (criterionPrograms_exclude c wf r) hm q).2, and_iff_right hne]

/-- Without imports, what `exclude` drops for a condition `A` is what satisfies `A`. -/
theorem drop_iff_of_noImports {c : Ctx} (hno : ∀ p q, ¬ Imports c p q) (A : Codes → Prop) (p : Codes) :
    (∃ q, A q ∧ (q = p ∨ Imports c p q)) ↔ A p := by
  constructor
  · rintro ⟨q, hq, rfl | hi⟩
    · exact hq
    · exact absurd hi (hno _ _)
  · exact fun h => ⟨p, h, Or.inl rfl⟩

theorem filterMap_pattern (pats : List Codes) :
    (pats.map Criterion.pattern).filterMap patternOf = pats := by
  induction pats with
  | nil => rfl
  | cons a t ih => simp [patternOf, ih]

theorem mem_taxaOfPrograms (c : Ctx) (progs : List Codes) (u : Codes) :
    u ∈ taxaOfPrograms c progs false ↔ ∃ p ∈ progs, FeaturesRec c p u := by
  simp only [taxaOfPrograms, List.mem_flatMap, FeaturesRec]
  constructor
  · rintro ⟨p, hp, h⟩
    split at h
    · cases h
    · rename_i rec hr
      simp only [Bool.or_false, List.mem_map, List.mem_filter, Bool.not_eq_true',
        List.isEmpty_eq_false_iff] at h
      obtain ⟨⟨u', spans⟩, ⟨hm, hne⟩, rfl⟩ := h
      exact ⟨p, hp, rec, spans, hr, hm, hne⟩
  · rintro ⟨p, hp, rec, spans, hr, hm, hne⟩
    refine ⟨p, hp, ?_⟩
    rw [hr]
    simp only [Bool.or_false, List.mem_map, List.mem_filter, Bool.not_eq_true',
      List.isEmpty_eq_false_iff]
    exact ⟨(u, spans), ⟨hm, hne⟩, rfl⟩

end Paroxy.Filter
