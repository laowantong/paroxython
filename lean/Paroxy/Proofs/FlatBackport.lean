/-
C15: `backport_all_constants` as a tree-level tweak. The pass searches the rest of the text for the last line that
starts with a key, so the induction carries the lines `R` that follow the dump and the fact (`RCond`) that none of
them lies under the prefix of the value being dumped.
-/
import Paroxy.Proofs.FlatAlias
namespace Paroxy.Flat

def Under (pre l : Str) : Prop := (pre ++ ['/']) <+: l ∨ (pre ++ ['=']) <+: l

theorem Under.ne_nil {pre l : Str} (h : Under pre l) : l ≠ [] := by
  rintro rfl
  rcases h with h | h <;> simp at h

theorem under_sub {pre n l : Str} (h : Under (subPre pre n) l) : (pre ++ ['/']) <+: l := by
  rcases h with ⟨t, ht⟩ | ⟨t, ht⟩
  · exact ⟨n ++ '/' :: t, by rw [← ht]; simp [subPre]⟩
  · exact ⟨n ++ '=' :: t, by rw [← ht]; simp [subPre]⟩

theorem ownLines_prefix (h : Str → Str) (p path ty : Str) (e : Bool) (r : Str) (ln : Option Nat) :
    ∀ l ∈ typeLine p ty :: hpLines h p path e r ln, (p ++ cs!"/_") <+: l :=
  List.forall_mem_cons.mpr ⟨⟨cs!"type=" ++ ty, by simp [typeLine]⟩,
    forall_hpLines ⟨cs!"hash=" ++ h r, by simp [hashLine]⟩
      (fun n => ⟨cs!"pos=" ++ (dec n ++ ':' :: path.drop 2), by simp [posLine]⟩) e ln⟩

mutual
theorem under_dumpP (h : Str → Str) : ∀ (v : Val) (pre path : Str), ∀ l ∈ dumpP h pre path v, Under pre l
  | .node ty e r ln fs, pre, path, l, hl => by
    rw [dumpP_node_eq, ← List.cons_append, List.mem_append] at hl
    rcases hl with hl | hl
    · exact Or.inl (List.IsPrefix.trans ⟨['_'], by simp⟩ (ownLines_prefix h pre path ty e r ln l hl))
    · obtain ⟨n, _, hu⟩ := under_dumpPFields h fs pre path 0 l hl
      exact Or.inl (under_sub hu)
  | .list q xs, pre, path, l, hl => by
    simp only [dumpP, List.mem_append] at hl
    rcases hl with hl | hl
    · cases q with
      | true => simp at hl
      | false => simp at hl; subst hl; exact Or.inl ⟨cs!"_length=" ++ dec xs.length, by simp [lengthLine]⟩
    · obtain ⟨j, _, hu⟩ := under_dumpPItems h xs pre path 1 l hl
      exact Or.inl (under_sub hu)
  | .scalar r k, pre, path, l, hl => by
    simp only [dumpP, List.mem_singleton] at hl
    subst hl
    exact Or.inr ⟨r, by simp [scalarLine]⟩
theorem under_dumpPFields (h : Str → Str) : ∀ (fs : List (Str × Val)) (pre path : Str) (i : Nat),
    ∀ l ∈ dumpPFields h pre path i fs, ∃ n, n ∈ fs.map (·.1) ∧ Under (subPre pre n) l
  | [], _, _, _, l, hl => by simp [dumpPFields] at hl
  | (n, v) :: rest, pre, path, i, l, hl => by
    simp only [dumpPFields, List.mem_append] at hl
    rcases hl with hl | hl
    · exact ⟨n, by simp, under_dumpP h v _ _ l hl⟩
    · obtain ⟨n', hn', hu⟩ := under_dumpPFields h rest pre path (i + 1) l hl
      exact ⟨n', by simp [hn'], hu⟩
theorem under_dumpPItems (h : Str → Str) : ∀ (xs : List Val) (pre path : Str) (i : Nat),
    ∀ l ∈ dumpPItems h pre path i xs, ∃ j, i ≤ j ∧ Under (subPre pre (dec j)) l
  | [], _, _, _, l, hl => by simp [dumpPItems] at hl
  | v :: rest, pre, path, i, l, hl => by
    simp only [dumpPItems, List.mem_append] at hl
    rcases hl with hl | hl
    · exact ⟨i, Nat.le_refl _, under_dumpP h v _ _ l hl⟩
    · obtain ⟨j, hj, hu⟩ := under_dumpPItems h rest pre path (i + 1) l hl
      exact ⟨j, by omega, hu⟩
end

theorem nameOk_iff {n : Str} : nameOk n = true ↔ '=' ∉ n ∧ '/' ∉ n := by
  simp [nameOk]

theorem nameOk_dec (j : Nat) : nameOk (dec j) = true := nameOk_iff.mpr ⟨eq_not_mem_dec j, slash_not_mem_dec j⟩

/-- The name that follows `pre/` in a line is a function of the line: the text up to the first `/` or `=`. -/
theorem name_after {pre n l : Str} {c : Char} (hc : c = '/' ∨ c = '=') (hn : nameOk n = true)
    (h : (subPre pre n ++ [c]) <+: l) :
    (l.drop (pre.length + 1)).takeWhile (fun x => x != '/' && x != '=') = n := by
  obtain ⟨t, rfl⟩ := h
  have hd : (subPre pre n ++ [c] ++ t).drop (pre.length + 1) = n ++ c :: t := by
    rw [show subPre pre n ++ [c] ++ t = (pre ++ ['/']) ++ (n ++ c :: t) by simp [subPre]]
    exact List.drop_left' (by simp)
  have hn' : ∀ a ∈ n, (a != '/' && a != '=') = true := by
    intro a ha
    obtain ⟨h1, h2⟩ := nameOk_iff.mp hn
    simp only [Bool.and_eq_true, bne_iff_ne]
    exact ⟨fun e => h2 (e ▸ ha), fun e => h1 (e ▸ ha)⟩
  rw [hd, List.takeWhile_append_of_pos hn', List.takeWhile_cons_of_neg (by rcases hc with rfl | rfl <;> decide),
    List.append_nil]

theorem not_prefix_of_under_sibling {pre n n' l : Str} {c : Char} (hc : c = '/' ∨ c = '=')
    (hn : nameOk n = true) (hn' : nameOk n' = true) (hne : n ≠ n') (hu : Under (subPre pre n') l) :
    ¬ (subPre pre n ++ [c]) <+: l := fun hp =>
  hne ((name_after hc hn hp).symm.trans (hu.elim (name_after (Or.inl rfl) hn') (name_after (Or.inr rfl) hn')))

/-- What is required of the lines that follow the dump of a value with prefix `pre`: none is empty,
none lies under `pre`. -/
def RCond (pre : Str) (R : List Str) : Prop := ∀ l ∈ R, l ≠ [] ∧ ¬ (pre ++ ['/']) <+: l

theorem RCond.not_prefix {pre : Str} {R : List Str} (hR : RCond pre R) (k : Str) :
    ∀ l ∈ R, ¬ (pre ++ '/' :: k) <+: l :=
  fun l hl ⟨t, ht⟩ => (hR l hl).2 ⟨k ++ t, by rw [← ht]; simp⟩

/-- The lines after the dump of a value also come after the dump of each of its children. -/
theorem RCond.sub {pre : Str} {R : List Str} (hR : RCond pre R) (n : Str) (c : Char) :
    ∀ l ∈ R, l ≠ [] ∧ ¬ (subPre pre n ++ [c]) <+: l :=
  fun l hl => ⟨(hR l hl).1, fun hp => hR.not_prefix (n ++ [c]) l hl (by simpa [subPre] using hp)⟩

/-- After the dump of the child `n` come lines `D` under other children, then `R`: none starts with `pre/n` followed by
`/` (that is `RCond (subPre pre n)`) or by `=`. -/
theorem RCond.sibling {pre n : Str} {c : Char} {D R : List Str} (hc : c = '/' ∨ c = '=') (hn : nameOk n = true)
    (hD : ∀ l ∈ D, ∃ n', nameOk n' = true ∧ n ≠ n' ∧ Under (subPre pre n') l) (hR : RCond pre R) :
    ∀ l ∈ D ++ R, l ≠ [] ∧ ¬ (subPre pre n ++ [c]) <+: l := by
  refine List.forall_mem_append.mpr ⟨fun l hl => ?_, hR.sub n c⟩
  obtain ⟨n', hn', hne, hu⟩ := hD l hl
  exact ⟨hu.ne_nil, not_prefix_of_under_sibling hc hn hn' hne hu⟩

theorem RCond.field (h : Str → Str) {pre n : Str} {R : List Str} {c : Char} (hc : c = '/' ∨ c = '=') (path : Str)
    (i : Nat) {rest : List (Str × Val)} (hn : nameOk n = true) (hrest : (rest.map (·.1)).all nameOk = true)
    (hnd : n ∉ rest.map (·.1)) (hR : RCond pre R) :
    ∀ l ∈ dumpPFields h pre path i rest ++ R, l ≠ [] ∧ ¬ (subPre pre n ++ [c]) <+: l :=
  RCond.sibling hc hn (fun l hl =>
    let ⟨n', hn', hu⟩ := under_dumpPFields h rest pre path i l hl
    ⟨n', List.all_eq_true.mp hrest n' hn', fun e' => hnd (e' ▸ hn'), hu⟩) hR

theorem RCond.item (h : Str → Str) {pre : Str} {R : List Str} (path : Str) (i : Nat) (rest : List Val)
    (hR : RCond pre R) : RCond (subPre pre (dec i)) (dumpPItems h pre path (i + 1) rest ++ R) :=
  RCond.sibling (Or.inl rfl) (nameOk_dec i) (fun l hl =>
    let ⟨j, hj, hu⟩ := under_dumpPItems h rest pre path (i + 1) l hl
    ⟨dec j, nameOk_dec j, fun e' => by have := dec_injective e'; omega, hu⟩) hR

theorem startsWithMore_of_not_prefix {key l : Str} (h : ¬ key <+: l) : startsWithMore key l = false := by
  simp [startsWithMore, List.isPrefixOf_iff_prefix, h]

theorem startsWithMore_append {key rv : Str} (h : rv ≠ []) : startsWithMore key (key ++ rv) = true :=
  (prefixMore_iff.mpr ⟨rfl, h⟩).1

/- Type marks `/_type=T`: the mark is a variable `mark` with `mark = tyKey ++ '=' :: T`, so that the lemmas apply as
they stand to the literals `constMark` and `unaryMark`. -/

theorem strip_typeMark_self {mark T : Str} (hm : mark = tyKey ++ '=' :: T) (pre : Str) :
    stripSuffix? mark (typeLine pre T) = some pre := by
  rw [hm, typeLine_keyval, List.append_assoc]
  simp [stripSuffix?, List.isSuffixOf_iff_suffix]

theorem typeMark_typeLine {mark T : Str} (hm : mark = tyKey ++ '=' :: T) {pre ty : Str} (hpre : '=' ∉ pre)
    (hty : '=' ∉ ty) (hne : ty ≠ T) : mark.isSuffixOf (typeLine pre ty) = false := by
  refine Bool.eq_false_iff.mpr fun hb => hne ?_
  rw [List.isSuffixOf_iff_suffix, hm, typeLine_keyval] at hb
  exact ((suffix_keyval_iff (not_mem_append_lit hpre eq_not_mem_tyKey) hty).mp hb).2

theorem typeMark_keyEnds {mark T : Str} (hm : mark = tyKey ++ '=' :: T) : KeyEnds mark.isSuffixOf tyKey := by
  intro K V hK hV hb
  rw [List.isSuffixOf_iff_suffix, hm] at hb
  exact ((suffix_keyval_iff hK hV).mp hb).1

theorem constMark_eq : constMark = tyKey ++ '=' :: cs!"Constant" := rfl

theorem bp_keep {l : Str} (L : List Str) (h : constMark.isSuffixOf l = false) :
    backportAllConstants (l :: L) = l :: backportAllConstants L := by
  rw [backportAllConstants]; simp [stripSuffix?, h]

theorem lastIdx_none {p : Str → Bool} : ∀ {B : List Str}, (∀ b ∈ B, p b = false) → lastIdx p B = none
  | [], _ => rfl
  | x :: B, h => by
    simp [lastIdx, lastIdx_none (fun b hb => h b (List.mem_cons_of_mem _ hb)), h x (by simp)]

theorem lastIdx_append_cons {p : Str → Bool} {x : Str} {B : List Str} (hx : p x = true)
    (hB : ∀ b ∈ B, p b = false) : ∀ A : List Str, lastIdx p (A ++ x :: B) = some A.length
  | [] => by simp [lastIdx, lastIdx_none hB, hx]
  | a :: A => by simp [lastIdx, lastIdx_append_cons hx hB A]

theorem nonEmptyRun_eq {L : List Str} (h : ∀ l ∈ L, l ≠ []) : nonEmptyRun L = L := by
  have hp : ∀ l ∈ L, (!l.isEmpty) = true := fun l hl => by simpa using h l hl
  rw [nonEmptyRun, ← List.append_nil L, List.takeWhile_append_of_pos hp]
  rfl

theorem cut_at_length (A : List Str) (x : Str) (T : List Str) {j : Nat} (hj : j = A.length) :
    (A ++ x :: T).getD j [] = x ∧ (A ++ x :: T).take j = A ∧ (A ++ x :: T).drop (j + 1) = T := by
  subst hj
  refine ⟨by simp, List.take_left, ?_⟩
  rw [show A ++ x :: T = (A ++ [x]) ++ T by simp]
  exact List.drop_left' (by simp)

/-- The block of a constant: type line, at least one own line, the value line, then lines none of which
starts with the value key. -/
theorem bp_const_block (pre rv x : Str) (HP T : List Str) (hx : x = (pre ++ cs!"/value=") ++ rv) (hrv : rv ≠ [])
    (hHP0 : HP ≠ []) (hHP : ∀ l ∈ HP, l ≠ []) (hT : ∀ l ∈ T, l ≠ [] ∧ ¬ (subPre pre cs!"value" ++ ['=']) <+: l) :
    backportAllConstants (typeLine pre cs!"Constant" :: (HP ++ x :: T)) =
      typeLine pre (constantKindOfRepr rv).1 :: (HP ++
        ((match (constantKindOfRepr rv).2 with
          | some f => [scalarLine (subPre pre f) rv]
          | none => []) ++ backportAllConstants T)) := by
  obtain ⟨a, HP, rfl⟩ := List.exists_cons_of_ne_nil hHP0
  have hne : ∀ l ∈ (a :: HP) ++ x :: T, l ≠ [] :=
    List.forall_mem_append.mpr ⟨hHP, List.forall_mem_cons.mpr ⟨by rw [hx]; simp, fun l hl => (hT l hl).1⟩⟩
  have hidx : lastIdx (startsWithMore (pre ++ cs!"/value=")) ((nonEmptyRun ((a :: HP) ++ x :: T)).drop 1) =
      some HP.length := by
    rw [nonEmptyRun_eq hne]
    refine lastIdx_append_cons (hx ▸ startsWithMore_append hrv) (fun b hb => startsWithMore_of_not_prefix ?_) HP
    simpa [subPre] using (hT b hb).2
  obtain ⟨hget, htake, hdrop⟩ := cut_at_length (a :: HP) x T (j := HP.length + 1) rfl
  rw [backportAllConstants]
  simp only [strip_typeMark_self constMark_eq pre, hidx, hget, htake, hdrop]
  rw [hx, List.drop_left]
  cases hk : (constantKindOfRepr rv).2 with
  | none => simp [typeLine]
  | some f => simp [typeLine, scalarLine, subPre]

@[elab_as_elim]
theorem scalarFields_induction {P : List (Str × Val) → Prop} (nil : P [])
    (cons : ∀ n r k rest, P rest → P ((n, .scalar r k) :: rest)) :
    ∀ fs : List (Str × Val), fs.all isScalarField = true → P fs
  | [], _ => nil
  | (n, .scalar r k) :: rest, hs =>
    cons n r k rest (scalarFields_induction nil cons rest (Bool.and_eq_true_iff.mp (List.all_cons.symm.trans hs)).2)
  | (n, .node ..) :: rest, hs => by simp [isScalarField] at hs
  | (n, .list ..) :: rest, hs => by simp [isScalarField] at hs

theorem dumpPFields_scalars_indep (h : Str → Str) (pre : Str) (fs : List (Str × Val))
    (hs : fs.all isScalarField = true) :
    ∀ (path path' : Str) (i i' : Nat), dumpPFields h pre path i fs = dumpPFields h pre path' i' fs := by
  refine scalarFields_induction (fun _ _ _ _ => rfl) ?_ fs hs
  intro n r k rest ih path path' i i'
  simp only [dumpPFields, dumpP]
  rw [ih path path' (i + 1) (i' + 1)]

theorem backportFields_scalars : ∀ (fs : List (Str × Val)), fs.all isScalarField = true → backportFields fs = fs :=
  scalarFields_induction rfl fun n r k rest ih => by rw [backportFields, backportTree, ih]

theorem bp_scalar_fields (h : Str → Str) (pre : Str) (R : List Str) (fs : List (Str × Val))
    (hs : fs.all isScalarField = true) : ∀ (path : Str) (i : Nat), wfBackportFields pre fs = true →
    backportAllConstants (dumpPFields h pre path i fs ++ R) = dumpPFields h pre path i fs ++ backportAllConstants R := by
  refine scalarFields_induction (fun _ _ _ => rfl) ?_ fs hs
  intro n r k rest ih path i hwf
  simp only [wfBackportFields, wfBackport, Bool.and_eq_true, Bool.not_eq_true'] at hwf
  simp only [dumpPFields, dumpP, List.cons_append, List.nil_append]
  rw [bp_keep _ hwf.1, ih path (i + 1) hwf.2]

theorem constShape_some {ty : Str} {fs : List (Str × Val)} {rv : Str} {k : Kind} {rest : List (Str × Val)}
    (h : constShape ty fs = some (rv, k, rest)) : ty = cs!"Constant" ∧ fs = (cs!"value", .scalar rv k) :: rest := by
  unfold constShape at h
  split at h
  · rename_i hty
    split at h
    · rename_i n rv' k' rest'
      split at h
      · rename_i hn
        simp only [Option.some.injEq, Prod.mk.injEq] at h
        obtain ⟨rfl, rfl, rfl⟩ := h
        exact ⟨beq_iff_eq.mp hty, by rw [beq_iff_eq.mp hn]⟩
      · cases h
    · cases h
  · cases h

theorem length_backportItems : ∀ xs : List Val, (backportItems xs).length = xs.length
  | [] => rfl
  | x :: xs => by simp [backportItems, length_backportItems xs]

mutual
theorem bp_dumpP (h : Str → Str) (hh : HashNoEq h) : ∀ (v : Val) (pre path : Str) (R : List Str),
    '=' ∉ pre → '=' ∉ path → wfBackport pre v = true → RCond pre R →
    backportAllConstants (dumpP h pre path v ++ R) =
      dumpP h pre path (backportTree v) ++ backportAllConstants R
  | .node ty e r ln fs, pre, path, R, hpre, hpath, hwf, hR => by
    simp only [wfBackport, Bool.and_eq_true] at hwf
    obtain ⟨⟨⟨⟨hty0, hnames⟩, hnodup⟩, hconst⟩, hfs⟩ := hwf
    have hty : '=' ∉ ty := by simpa using hty0
    have hnd : (fs.map (·.1)).Nodup := by simpa using hnodup
    rw [dumpP_node_eq, List.cons_append, List.append_assoc]
    cases hc : (ty == cs!"Constant") with
    | false =>
      have hshape : constShape ty fs = none := by simp [constShape, hc]
      simp only [backportTree, hshape]
      rw [dumpP_node_eq, bp_keep _ (typeMark_typeLine constMark_eq hpre hty (by simpa using hc)),
        keep_block (fun _ L => bp_keep L) _ _ ((typeMark_keyEnds constMark_eq).hpLines (by decide) (by decide) hh r hpre hpath e ln),
        bp_dumpPFields h hh fs pre path 0 R hpre hpath hnames hnd hfs hR, List.cons_append, List.append_assoc]
    | true =>
      rw [hc] at hconst
      simp only [if_true] at hconst
      cases hs : constShape ty fs with
      | none => rw [hs] at hconst; cases hconst
      | some t =>
        obtain ⟨rv, k, rest⟩ := t
        rw [hs] at hconst
        simp only [Bool.and_eq_true, Bool.not_eq_true', List.isEmpty_eq_false_iff, Bool.or_eq_true] at hconst
        obtain ⟨⟨hrv, hscal⟩, hHP⟩ := hconst
        obtain ⟨rfl, rfl⟩ := constShape_some hs
        simp only [wfBackportFields, Bool.and_eq_true] at hfs
        simp only [List.map_cons, List.all_cons, Bool.and_eq_true] at hnames
        simp only [List.map_cons, List.nodup_cons] at hnd
        have hblock := bp_const_block pre rv (scalarLine (subPre pre cs!"value") rv) (hpLines h pre path e r ln)
          (dumpPFields h pre path 1 rest ++ R) (by simp [scalarLine, subPre]) hrv
          (by cases e <;> cases ln <;> simp [hpLines] at hHP ⊢) (hpLines_ne_nil h pre path e r ln)
          (RCond.field h (Or.inr rfl) path 1 hnames.1 hnames.2 hnd.1 hR)
        simp only [backportTree, hs]
        rw [dumpP_node_eq]
        -- the lines of the fields begin with the value line
        refine hblock.trans ?_
        rw [bp_scalar_fields h pre R rest hscal path 1 hfs.2]
        cases hk : (constantKindOfRepr rv).2 with
        | none => simp [dumpPFields_scalars_indep h pre rest hscal path path 0 1]
        | some f => simp [dumpPFields, dumpP]
  | .list q xs, pre, path, R, hpre, hpath, hwf, hR => by
    rw [backportTree, dumpP, dumpP, length_backportItems, List.append_assoc, List.append_assoc,
      ← bp_dumpPItems h hh xs pre path 1 R hpre hpath hwf hR]
    exact keep_block (fun _ L => bp_keep L) _ _ ((typeMark_keyEnds constMark_eq).lengthLines (by decide) q _ hpre)
  | .scalar r k, pre, path, R, _, _, hwf, _ => by
    simp only [wfBackport, Bool.not_eq_true'] at hwf
    simp only [dumpP, backportTree, List.cons_append, List.nil_append]
    exact bp_keep _ hwf
theorem bp_dumpPFields (h : Str → Str) (hh : HashNoEq h) :
    ∀ (fs : List (Str × Val)) (pre path : Str) (i : Nat) (R : List Str),
    '=' ∉ pre → '=' ∉ path → (fs.map (·.1)).all nameOk = true → (fs.map (·.1)).Nodup →
    wfBackportFields pre fs = true → RCond pre R →
    backportAllConstants (dumpPFields h pre path i fs ++ R) =
      dumpPFields h pre path i (backportFields fs) ++ backportAllConstants R
  | [], _, _, _, _, _, _, _, _, _, _ => rfl
  | (n, v) :: rest, pre, path, i, R, hpre, hpath, hnames, hnd, hwf, hR => by
    simp only [wfBackportFields, Bool.and_eq_true] at hwf
    simp only [List.map_cons, List.all_cons, Bool.and_eq_true] at hnames
    simp only [List.map_cons, List.nodup_cons] at hnd
    have ih := bp_dumpPFields h hh rest pre path (i + 1) R hpre hpath hnames.2 hnd.2 hwf.2 hR
    have hv := bp_dumpP h hh v (subPre pre n) (subPath path i) _ (eq_not_mem_subPre hpre (nameOk_iff.mp hnames.1).1)
      (eq_not_mem_subPath i hpath) hwf.1 (RCond.field h (Or.inl rfl) path (i + 1) hnames.1 hnames.2 hnd.1 hR)
    simp only [dumpPFields, backportFields, List.append_assoc]
    rw [hv, ih]
theorem bp_dumpPItems (h : Str → Str) (hh : HashNoEq h) :
    ∀ (xs : List Val) (pre path : Str) (i : Nat) (R : List Str),
    '=' ∉ pre → '=' ∉ path → wfBackportItems pre i xs = true → RCond pre R →
    backportAllConstants (dumpPItems h pre path i xs ++ R) =
      dumpPItems h pre path i (backportItems xs) ++ backportAllConstants R
  | [], _, _, _, _, _, _, _, _ => rfl
  | v :: rest, pre, path, i, R, hpre, hpath, hwf, hR => by
    simp only [wfBackportItems, Bool.and_eq_true] at hwf
    have ih := bp_dumpPItems h hh rest pre path (i + 1) R hpre hpath hwf.2 hR
    have hv := bp_dumpP h hh v (subPre pre (dec i)) (subPath path i) _ (eq_not_mem_subPre hpre (eq_not_mem_dec i))
      (eq_not_mem_subPath i hpath) hwf.1 (RCond.item h path i rest hR)
    simp only [dumpPItems, backportItems, List.append_assoc]
    rw [hv, ih]
end

end Paroxy.Flat
