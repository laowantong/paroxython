/-
Two facts about `makeDb` for C11 and C14 (what the import closure holds, which paths have a record); then:
`collect` returns a database exactly when the parser wrapper raises on no file, and it is then `makeDb` on the
programs `progsOf`; the single label of an invalid or empty program is not touched by the relabelling.
-/
import Paroxy.Spec.Collect
import Paroxy.Proofs.MakeDbResolved
namespace Paroxy.DB

variable {toTaxa : Name → List Label → List Taxon} {progs : List Prog} {db : Db}

theorem closure_spec (d : List (Name × List Name)) {p : Name} (hp : p ∈ keys d) :
    get? (completeImportations d) p = some (sortU (closureOf d p)) ∧ StrictSorted (sortU (closureOf d p)) ∧
      ∀ q, q ∈ sortU (closureOf d p) ↔ Relation.TransGen (Direct d) p q := by
  obtain ⟨v, hv⟩ := get?_isSome.mpr hp
  refine ⟨by rw [get?_completeImportations, hv]; rfl, strictSorted_sortU _, fun q => ?_⟩
  rw [mem_sortU, mem_closureOf, reach_iff_transGen]

theorem get?_programs_iff (h : makeDb toTaxa progs = .ok db) (hn : (pathsOf progs).Nodup) {p : Name} {r : Record} :
    get? db.programs p = some r ↔ ∃ q ∈ progs, q.path = p ∧ r = recordOf toTaxa (internalOf progs) q := by
  constructor
  · intro hg
    obtain ⟨-, -, -, -, hprog⟩ := makeDb_ok h
    rw [hprog, programs_eq progs hn] at hg
    obtain ⟨q, hq, e⟩ := List.mem_map.mp (get?_mem hg)
    simp only [Prod.mk.injEq] at e
    exact ⟨q, hq, e.1, e.2.symm⟩
  · rintro ⟨q, hq, rfl, rfl⟩
    exact get?_programs h hn hq

end Paroxy.DB

namespace Paroxy.Collect
open Paroxy Paroxy.DB

variable {Tree : Type} {X : Ext Tree}

theorem cleanAll_eq (files : List (Name × Name)) :
    cleanAll X files = files.map fun f => (f.1, srcOf X f) := rfl

def ParseOk (X : Ext Tree) (srcs : List (Name × Name)) : Prop :=
  ∀ f ∈ srcs, ∃ ls, parseProgram X f.2 = .ok ls

def progOfSrc (X : Ext Tree) (f : Name × Name) : Prog :=
  { path := f.1, timestamp := [], source := f.2, labels := labelsD X f.2 }

theorem parseAll_iff {srcs : List (Name × Name)} {r : List Prog} :
    parseAll X srcs = .ok r ↔ ParseOk X srcs ∧ r = srcs.map (progOfSrc X) := by
  fun_induction parseAll X srcs generalizing r with
  | case1 => exact ⟨fun h => ⟨nofun, (Except.ok.inj h).symm⟩, fun h => h.2 ▸ rfl⟩
  | case2 p src t e hc =>
    refine ⟨nofun, fun h => ?_⟩
    obtain ⟨ls, hls⟩ := h.1 _ List.mem_cons_self
    exact nomatch hc.symm.trans hls
  | case3 p src t ls hc e ht ih =>
    exact ⟨nofun, fun h => nomatch ht.symm.trans (ih.mpr ⟨fun g hg => h.1 g (List.mem_cons_of_mem _ hg), rfl⟩)⟩
  | case4 p src t ls hc r' ht ih =>
    obtain ⟨hok, rfl⟩ := ih.mp ht
    have he : progOfSrc X (p, src) = { path := p, timestamp := [], source := src, labels := ls } := by
      simp only [progOfSrc, labelsD, hc]
    rw [List.map_cons, he]
    exact ⟨fun h => ⟨List.forall_mem_cons.2 ⟨⟨ls, hc⟩, hok⟩, (Except.ok.inj h).symm⟩, fun h => h.2 ▸ rfl⟩

theorem map_progOfSrc (files : List (Name × Name)) :
    (files.map fun f => (f.1, srcOf X f)).map (progOfSrc X) = progsOf X files := by
  simp [progsOf, progOf, progOfSrc, List.map_map, Function.comp_def]

theorem parseProgram_total (hp : ParseCaught X) (hfl : FlattenCaught X) (hf : FeaturesTotal X)
    (src : Name) : ∃ ls, parseProgram X src = .ok ls := by
  fun_cases parseProgram X src
  case case2 e h hc => exact absurd (hp src e h).1 hc
  case case5 t h _ e hfe hc => exact absurd (hfl src t e hfe).1 hc
  case case6 t h _ _ _ => exact hf src t
  all_goals exact ⟨_, rfl⟩

theorem parseProgram_unflattenable {src : Name} {t : Tree} {e : Exc} (h : X.parse src = .ok t)
    (hne : X.isEmpty t = false) (hfl : X.flatten src t = .error e) (hc : e.caught = true) :
    parseProgram X src = .ok [astLabel e.name src] := by
  unfold parseProgram; rw [h]; simp [hne, hfl, hc]

theorem parseProgram_invalid {src : Name} {e : Exc} (h : X.parse src = .error e)
    (hc : e.caught = true) : parseProgram X src = .ok [astLabel e.name src] := by
  unfold parseProgram; rw [h]; simp [hc]

theorem parseProgram_empty {src : Name} {t : Tree} (h : X.parse src = .ok t)
    (he : X.isEmpty t = true) : parseProgram X src = .ok [emptyLabel src] := by
  unfold parseProgram; rw [h]; simp [he]

theorem collect_iff {toTaxa : Name → List Label → List Taxon} {files : List (Name × Name)} {db : Db} :
    collect X toTaxa files = .ok db ↔
      ParseOk X (files.map fun f => (f.1, srcOf X f)) ∧ makeDb toTaxa (progsOf X files) = .ok db := by
  unfold collect
  rw [cleanAll_eq]
  cases hp : parseAll X (files.map fun f => (f.1, srcOf X f)) with
  | error e =>
    have : ¬ ParseOk X (files.map fun f => (f.1, srcOf X f)) := fun h => by
      simpa [hp] using (parseAll_iff (r := _)).mpr ⟨h, rfl⟩
    simp [this]
  | ok progs =>
    obtain ⟨hok, rfl⟩ := parseAll_iff.mp hp
    simp only [map_progOfSrc, hok, true_and]
    cases makeDb toTaxa (progsOf X files) with
    | error e => cases e; simp
    | ok db' => simp

theorem pathsOf_progsOf (files : List (Name × Name)) : pathsOf (progsOf X files) = files.map (·.1) := by
  simp [pathsOf, progsOf, progOf, List.map_map, Function.comp_def]

theorem importAt?_colon {s g : Name} (h : importAt? s = some g) : cColon ∈ s := by
  revert h
  fun_cases importAt? s
  case case2 r h1 r' h2 => intro _; rw [dropPrefix?_eq h1, dropPrefix?_eq h2]; simp
  case case3 r h1 _ r' h2 => intro _; rw [dropPrefix?_eq h1, dropPrefix?_eq h2]; simp
  all_goals nofun

theorem searchImport?_colon {s g : Name} (h : searchImport? s = some g) : cColon ∈ s := by
  fun_induction searchImport? s with
  | case1 => cases h
  | case2 c cs g' h1 => exact importAt?_colon h1
  | case3 c cs h1 ih => exact List.mem_cons_of_mem _ (ih h)

/-- No suffix of `"ast_construction:" ++ n` starts an import label when `n` has no colon: the scan is run on the
seventeen characters, whose only `i` is followed by `o`, not `m`. -/
theorem searchImport?_ast {n : Name} (hn : cColon ∉ n) : searchImport? (sAst ++ n) = none := by
  have hn' : searchImport? n = none := by
    cases h : searchImport? n with
    | none => rfl
    | some g => exact absurd (searchImport?_colon h) hn
  simp [sAst, searchImport?, importAt?, dropPrefix?, sImport, hn']

theorem sEmpty_noColon : cColon ∉ sEmpty := by decide

theorem preparedLabels_single (l : Label) :
    preparedLabels [l] = [(l.name, preparedSpans l.spans)] := rfl

theorem preparedSpans_single (s : Span3) : preparedSpans [s] = [Span3.poor s] := by
  simp [preparedSpans, sortU, insortNew, insort]

/-- The record of a program whose parser result is the single label `ast_construction:<E>`: the relabelling leaves
the label alone (`E` has no colon), so it is stored as it is and the taxonomy is asked about it alone. -/
theorem recordOf_astLabel (toTaxa : Name → List Label → List Taxon) (internal : List Name) {p : Prog}
    {E : Name} (hE : cColon ∉ E) {src : Name} (hl : p.labels = [astLabel E src]) :
    (recordOf toTaxa internal p).labels = [(sAst ++ E, [(1, ((src.count 10 : Nat) : Int) + 1)])] ∧
    (recordOf toTaxa internal p).taxa = preparedTaxa (toTaxa p.path [astLabel E src]) := by
  have h : labelsOf internal p = [astLabel E src] := by
    simp only [labelsOf, relabel, hl, List.map_cons, List.map_nil, astLabel, relabelName, searchImport?_ast hE]
  simp only [recordOf, h, preparedLabels_single, astLabel, preparedSpans_single, Span3.poor]
  exact ⟨trivial, trivial⟩

/-- `g`'s labels name no module whose path is `b`. -/
def NotImporting (X : Ext Tree) (g : Name × Name) (b : Name) : Prop :=
  ∀ l ∈ labelsD X (srcOf X g), ∀ m, searchImport? l.name = some m →
    replaceChar cDot cSlash m ++ sPy ≠ b

theorem mem_internalPaths {paths : List Name} {x : Name} :
    x ∈ internalPaths paths ↔ x ∈ paths ∨ x = sPy := by
  simp [internalPaths]

theorem mem_internalPaths_filter {paths : List Name} {b x : Name} (h : x ≠ b) :
    x ∈ internalPaths (paths.filter fun p => decide (p ≠ b)) ↔ x ∈ internalPaths paths := by
  simp only [mem_internalPaths, List.mem_filter, decide_eq_true_eq, h, ne_eq, not_false_eq_true, and_true]

end Paroxy.Collect
