/-
C15: `suppress_alias_pos` as a tree-level tweak. The pass looks one line ahead (a `/_type=alias` line followed by
a position line), so the induction carries the lines `R` that follow the dump and the fact that the first of
them does not look like a position line.
-/
import Paroxy.Proofs.FlatTweaks
namespace Paroxy.Flat

abbrev aliasTail : Str := cs!"/_type=alias"

theorem isAliasLine_keyval {K V : Str} (hK : '=' ∉ K) (hV : '=' ∉ V) :
    isAliasLine (K ++ '=' :: V) = true ↔ EndsMore tyKey K ∧ V = cs!"alias" := by
  simp only [isAliasLine, Bool.and_eq_true, List.isSuffixOf_iff_suffix, decide_eq_true_eq, endsMore_iff]
  constructor
  · rintro ⟨X, hX, h⟩
    obtain ⟨h1, h2⟩ := (keyval_eq_append_iff (q := tyKey) hK hV).mp h
    exact ⟨⟨X, hX, h1⟩, h2⟩
  · rintro ⟨⟨X, hX, h1⟩, h2⟩
    exact ⟨X, hX, (keyval_eq_append_iff hK hV).mpr ⟨h1, h2⟩⟩

theorem isAliasLine_typeLine {pre ty : Str} (hpre : '=' ∉ pre) (hty : '=' ∉ ty) :
    isAliasLine (typeLine pre ty) = (!pre.isEmpty && ty == cs!"alias") := by
  rw [Bool.eq_iff_iff, typeLine_keyval, isAliasLine_keyval (not_mem_append_lit hpre eq_not_mem_tyKey) hty,
    endsMore_self]
  simp

theorem isAliasLine_keyEnds : KeyEnds isAliasLine tyKey :=
  fun _ _ hK hV hb => ((isAliasLine_keyval hK hV).mp hb).1.suffix

abbrev posMark : Str := cs!"_pos="
abbrev posKey : Str := cs!"_pos"

theorem isPosLike_iff (l : Str) : isPosLike l = true ↔ ∃ a b, a ≠ [] ∧ l = a ++ posMark ++ b ∧ b ≠ [] := by
  rw [scan_after1_iff (f := posLikeFrom) (test := fun s => posMark.isPrefixOf s && posMark.length < s.length)
    rfl (fun _ _ => rfl) rfl (fun _ _ => rfl)]
  constructor
  · rintro ⟨a, s, ha, rfl, _, hs⟩
    obtain ⟨e, hb⟩ := prefixMore_iff.mp ⟨hs, rfl⟩
    exact ⟨a, _, ha, by rw [List.append_assoc, ← e], hb⟩
  · rintro ⟨a, b, ha, rfl, hb⟩
    exact ⟨a, posMark ++ b, ha, List.append_assoc .., List.cons_ne_nil _ _, (prefixMore_iff.mpr ⟨rfl, hb⟩).1⟩

theorem isPosLike_posLine (pre path : Str) (n : Nat) : isPosLike (posLine pre n path) = true := by
  rw [isPosLike_iff]
  refine ⟨pre ++ cs!"/", dec n ++ ':' :: path.drop 2, by simp, by simp [posLine], by simp⟩

theorem isPosLike_keyEnds : KeyEnds isPosLike posKey := by
  intro K V hK hV hb
  obtain ⟨a, b, _, h, _⟩ := (isPosLike_iff _).mp hb
  exact ⟨a, ((keyval_eq_append_iff (q := posKey) hK hV).mp (h.trans (List.append_assoc ..))).1.symm⟩

def headPosLike : List Str → Bool
  | [] => false
  | l :: _ => isPosLike l

theorem alias_keep {a : Str} (L : List Str) (h : isAliasLine a = false ∨ headPosLike L = false) :
    suppressAliasPos (a :: L) = a :: suppressAliasPos L := by
  cases L with
  | nil => simp [suppressAliasPos]
  | cons b rest =>
    have : (isAliasLine a && isPosLike b) = false := by
      rcases h with h | h
      · rw [h, Bool.false_and]
      · rw [show isPosLike b = false from h, Bool.and_false]
    simp [suppressAliasPos, this]

theorem length_dropAliasPosItems : ∀ xs : List Val, (dropAliasPosItems xs).length = xs.length
  | [] => rfl
  | x :: xs => by simp [dropAliasPosItems, length_dropAliasPosItems xs]

mutual
theorem alias_dumpP (h : Str → Str) (hh : HashNoEq h) : ∀ (v : Val) (pre path : Str) (R : List Str),
    '=' ∉ pre → '=' ∉ path → wfAlias pre v = true → headPosLike R = false →
    suppressAliasPos (dumpP h pre path v ++ R) =
        dumpP h pre path (dropAliasPos (!pre.isEmpty) v) ++ suppressAliasPos R ∧
      headPosLike (dumpP h pre path v ++ R) = false
  | .node ty e r ln fs, pre, path, R, hpre, hpath, hwf, hR => by
    simp only [wfAlias, Bool.and_eq_true] at hwf
    have hty : '=' ∉ ty := by simpa using hwf.1
    obtain ⟨ih1, ih2⟩ := alias_dumpPFields h hh fs pre path 0 R hpre hpath hwf.2 hR
    have hT := isAliasLine_typeLine hpre hty
    have hTp := isPosLike_keyEnds.typeLine (by decide) hpre hty
    have hHp := isPosLike_keyEnds.hashLine (by decide) hpre (hh r)
    refine ⟨?_, by simp [dumpP, headPosLike, hTp]⟩
    rw [dropAliasPos, dumpP_node_eq, dumpP_node_eq, List.cons_append, List.cons_append, List.append_assoc,
      List.append_assoc, ← ih1]
    cases hc : (!pre.isEmpty && ty == cs!"alias" && !e) with
    | false =>
      -- the position stays: the type line is not an alias line, or the hash line follows it
      rw [if_neg (by simp)]
      refine (alias_keep _ ?_).trans (congrArg _ (keep_block (fun _ L hl => alias_keep L (Or.inl hl)) _ _
        (isAliasLine_keyEnds.hpLines (by decide) (by decide) hh r hpre hpath e ln)))
      cases e with
      | true => exact Or.inr (by simp [hpLines, headPosLike, hHp])
      | false => exact Or.inl (by rw [hT]; simpa using hc)
    | true =>
      simp only [Bool.and_eq_true, Bool.not_eq_true'] at hc
      obtain ⟨hal, rfl⟩ := hc
      have hT' : isAliasLine (typeLine pre ty) = true := by rw [hT, hal.1, hal.2]; rfl
      cases ln with
      | some n => simp [hpLines, suppressAliasPos, hT', isPosLike_posLine]
      | none => exact alias_keep _ (Or.inr ih2)
  | .list q xs, pre, path, R, hpre, hpath, hwf, hR => by
    simp only [wfAlias] at hwf
    obtain ⟨ih1, ih2⟩ := alias_dumpPItems h hh xs pre path 1 R hpre hpath hwf hR
    have hL := isAliasLine_keyEnds.lengthLine (by decide) xs.length hpre
    have hLp := isPosLike_keyEnds.lengthLine (by decide) xs.length hpre
    cases q with
    | true =>
      simp only [dumpP, dropAliasPos, if_true, List.nil_append]
      exact ⟨ih1, ih2⟩
    | false =>
      simp only [dumpP, dropAliasPos, Bool.false_eq_true, if_false, List.cons_append, List.nil_append,
        length_dropAliasPosItems]
      exact ⟨by rw [alias_keep _ (Or.inl hL), ih1], by simp [headPosLike, hLp]⟩
  | .scalar r k, pre, path, R, _, _, hwf, _ => by
    simp only [wfAlias, Bool.and_eq_true, Bool.not_eq_true'] at hwf
    simp only [dumpP, dropAliasPos, List.cons_append, List.nil_append]
    exact ⟨alias_keep _ (Or.inl hwf.1), by simp [headPosLike, hwf.2]⟩
theorem alias_dumpPFields (h : Str → Str) (hh : HashNoEq h) :
    ∀ (fs : List (Str × Val)) (pre path : Str) (i : Nat) (R : List Str),
    '=' ∉ pre → '=' ∉ path → wfAliasFields pre fs = true → headPosLike R = false →
    suppressAliasPos (dumpPFields h pre path i fs ++ R) =
        dumpPFields h pre path i (dropAliasPosFields fs) ++ suppressAliasPos R ∧
      headPosLike (dumpPFields h pre path i fs ++ R) = false
  | [], _, _, _, R, _, _, _, hR => ⟨rfl, hR⟩
  | (n, v) :: rest, pre, path, i, R, hpre, hpath, hwf, hR => by
    simp only [wfAliasFields, Bool.and_eq_true] at hwf
    have hn : '=' ∉ n := by simpa using hwf.1.1
    obtain ⟨r1, r2⟩ := alias_dumpPFields h hh rest pre path (i + 1) R hpre hpath hwf.2 hR
    obtain ⟨v1, v2⟩ := alias_dumpP h hh v (subPre pre n) (subPath path i) (dumpPFields h pre path (i + 1) rest ++ R)
      (eq_not_mem_subPre hpre hn) (eq_not_mem_subPath i hpath) hwf.1.2 r2
    rw [subPre_not_empty] at v1
    simp only [dumpPFields, dropAliasPosFields, List.append_assoc]
    exact ⟨by rw [v1, r1], v2⟩
theorem alias_dumpPItems (h : Str → Str) (hh : HashNoEq h) :
    ∀ (xs : List Val) (pre path : Str) (i : Nat) (R : List Str),
    '=' ∉ pre → '=' ∉ path → wfAliasItems pre i xs = true → headPosLike R = false →
    suppressAliasPos (dumpPItems h pre path i xs ++ R) =
        dumpPItems h pre path i (dropAliasPosItems xs) ++ suppressAliasPos R ∧
      headPosLike (dumpPItems h pre path i xs ++ R) = false
  | [], _, _, _, R, _, _, _, hR => ⟨rfl, hR⟩
  | v :: rest, pre, path, i, R, hpre, hpath, hwf, hR => by
    simp only [wfAliasItems, Bool.and_eq_true] at hwf
    obtain ⟨r1, r2⟩ := alias_dumpPItems h hh rest pre path (i + 1) R hpre hpath hwf.2 hR
    obtain ⟨v1, v2⟩ := alias_dumpP h hh v (subPre pre (dec i)) (subPath path i)
      (dumpPItems h pre path (i + 1) rest ++ R)
      (eq_not_mem_subPre hpre (eq_not_mem_dec i)) (eq_not_mem_subPath i hpath) hwf.1 r2
    rw [subPre_not_empty] at v1
    simp only [dumpPItems, dropAliasPosItems, List.append_assoc]
    exact ⟨by rw [v1, r1], v2⟩
end

end Paroxy.Flat
