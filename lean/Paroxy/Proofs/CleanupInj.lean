/-
When every injection statement is one line, the statement-level pass is a filter on the lines.
-/
import Paroxy.Proofs.Cleanup
namespace Paroxy.Cleanup
open Paroxy.Cleanup.Spec

theorem RangesOk_lineno_gt : ∀ (M : List IfStmt) (pos n : Nat), RangesOk pos n M →
    ∀ r ∈ M, pos < r.lineno := by
  intro M
  induction M with
  | nil => intro pos n _ r hr; cases hr
  | cons r0 rest ih =>
    intro pos n hok r hr
    obtain ⟨h1, h2, _, hrest⟩ := hok
    rcases List.mem_cons.1 hr with rfl | hr
    · exact h1
    · exact Nat.lt_trans (Nat.lt_of_lt_of_le h1 h2) (ih _ _ hrest r hr)

theorem filter_not_eq_self_of_getD (p : Line → Bool) (l : List Line)
    (h : ∀ i, i < l.length → p (l.getD i []) ≠ true) : l.filter (fun x => !p x) = l := by
  rw [List.filter_eq_self]
  intro a ha
  obtain ⟨i, hi, rfl⟩ := List.mem_iff_getElem.1 ha
  simpa [List.getD_eq_getElem?_getD, hi] using h i hi

/-- `q` is the mark read by absolute line number (`p` of the line `n - pos` of `ls`): so stated, the hypotheses
pass to the lines after a statement as they are, and no line number is a difference. -/
theorem keepOutside_single_line_gen (p : Line → Bool) (q : Nat → Bool) (M : List IfStmt) :
    ∀ (pos : Nat) (ls : List Line),
    RangesOk pos ls.length M →
    (∀ r ∈ M, r.isGuard = true → r.lineno = r.endLineno) →
    (∀ r ∈ M, r.isGuard = q r.lineno) →
    (∀ i, i < ls.length → p (ls.getD i []) = q (pos + i + 1)) →
    (∀ i, i < ls.length → q (pos + i + 1) = true → ∃ r ∈ M, r.lineno = pos + i + 1) →
    keepOutsideGuards pos ls M = ls.filter (fun l => !p l) := by
  induction M with
  | nil =>
    intro pos ls _ _ _ hq h4
    refine (filter_not_eq_self_of_getD p ls fun i hi hp => ?_).symm
    obtain ⟨r, hr, _⟩ := h4 i hi (hq i hi ▸ hp)
    cases hr
  | cons r rest ih =>
    obtain ⟨a, b, g⟩ := r
    intro pos ls hok h2 h3 hq h4
    obtain ⟨A, B, C, rfl, ha, hb, hB, hrest, hk⟩ := keepOutsideGuards_cons hok
    have hBpos := List.length_pos_iff.mpr hB
    simp only [List.length_append] at hq h4
    -- among the lines of `A ++ B`, only the first line of `B` can be marked
    have key : ∀ i, i < A.length + B.length → q (pos + i + 1) = true → i = A.length := by
      intro i hi hp
      obtain ⟨r, hr, hrl⟩ := h4 i (Nat.lt_add_right _ hi) hp
      rcases List.mem_cons.1 hr with rfl | hr
      · exact Nat.add_left_cancel (Nat.add_right_cancel (hrl.symm.trans ha))
      · have := RangesOk_lineno_gt rest b _ hrest r hr
        omega
    have hg : g = q (pos + A.length + 1) := ha ▸ h3 _ List.mem_cons_self
    have hqB : ∀ i, i < B.length → p (B.getD i []) = q (pos + (A.length + i) + 1) := fun i hi => by
      rw [← hq _ (Nat.lt_add_right _ (Nat.add_lt_add_left hi _)), List.append_assoc, getD_append_add,
        getD_append_lt _ _ _ _ hi]
    rw [hk, List.filter_append, List.filter_append]
    congr 1
    · congr 1
      · refine (filter_not_eq_self_of_getD p A fun i hi hp => ?_).symm
        rw [← getD_append_lt A (B ++ C) _ _ hi, ← List.append_assoc,
          hq i (Nat.lt_add_right _ (Nat.lt_add_right _ hi))] at hp
        exact absurd (key i (Nat.lt_add_right _ hi) hp) (Nat.ne_of_lt hi)
      · cases g with
        | true =>
          have hab : a = b := h2 _ List.mem_cons_self rfl
          obtain ⟨x, rfl⟩ := List.length_eq_one_iff.mp (Nat.add_left_cancel (ha.symm.trans (hab.trans hb))).symm
          have hx : p x = true := (hqB 0 Nat.one_pos).trans hg.symm
          simp [hx]
        | false =>
          refine (filter_not_eq_self_of_getD p B fun i hi hp => ?_).symm
          rw [hqB i hi] at hp
          have hi0 : i = 0 := Nat.add_left_cancel (key _ (Nat.add_lt_add_left hi _) hp)
          rw [hi0] at hp
          cases hg.trans hp
    · have e : ∀ i, pos + (A.length + B.length + i) + 1 = b + i + 1 := fun i => by
        rw [hb]
        simp only [Nat.add_assoc]
      refine ih b C hrest (fun r hr => h2 r (List.mem_cons_of_mem _ hr)) (fun r hr => h3 r (List.mem_cons_of_mem _ hr))
        (fun i hi => ?_) (fun i hi hp => ?_)
      · rw [← e, ← hq _ (Nat.add_lt_add_left hi _), ← List.length_append, getD_append_add]
      · rw [← e] at hp ⊢
        obtain ⟨r, hr, hrl⟩ := h4 _ (Nat.add_lt_add_left hi _) hp
        rcases List.mem_cons.1 hr with rfl | hr
        · dsimp only at hrl
          omega
        · exact ⟨r, hr, hrl⟩

theorem keepOutside_single_line (M : List IfStmt) : ∀ (pos : Nat) (ls : List Line),
    RangesOk pos ls.length M →
    (∀ r ∈ M, r.isGuard = true → r.lineno = r.endLineno) →
    (∀ r ∈ M, r.isGuard = isInjection (ls.getD (r.lineno - 1 - pos) [])) →
    (∀ i, i < ls.length → isInjection (ls.getD i []) = true → ∃ r ∈ M, r.lineno = pos + i + 1) →
    keepOutsideGuards pos ls M = ls.filter (fun l => !isInjection l) := by
  intro pos ls hok h2 h3 h4
  have e : ∀ i, pos + i + 1 - 1 - pos = i := fun i => by rw [Nat.add_sub_cancel, Nat.add_sub_cancel_left]
  exact keepOutside_single_line_gen isInjection (fun n => isInjection (ls.getD (n - 1 - pos) [])) M pos ls hok h2 h3
    (fun i _ => by rw [e]) (fun i hi hp => h4 i hi (by rwa [e] at hp))

end Paroxy.Cleanup
