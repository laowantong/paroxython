/-
The iterative visited-set traversal `closureLoop` computes exactly the transitive closure of the
direct-importation relation, for every dictionary (cycles, self-imports and dangling targets included).
Termination is part of the definition (Model/MakeDb.lean).
-/
import Paroxy.Proofs.MakeDbSort
import Mathlib.Logic.Relation
namespace Paroxy.DB

theorem Reach.trans {α : Type} {r : α → α → Prop} {a b c : α} (h : Reach r a b) (h' : Reach r b c) :
    Reach r a c := by
  induction h' with
  | single hbc => exact Reach.tail h hbc
  | tail _ hcd ih => exact Reach.tail ih hcd

theorem Reach.head {α : Type} {r : α → α → Prop} {a b c : α} (h : r a b) (h' : Reach r b c) :
    Reach r a c :=
  Reach.trans (Reach.single h) h'

theorem reach_iff_transGen {α : Type} {r : α → α → Prop} {a b : α} :
    Reach r a b ↔ Relation.TransGen r a b := by
  constructor
  · intro h
    induction h with
    | single h => exact Relation.TransGen.single h
    | tail _ h ih => exact Relation.TransGen.tail ih h
  · intro h
    induction h with
    | single h => exact Reach.single h
    | tail _ h ih => exact Reach.tail ih h

/-- Everything the loop establishes about its result:
(a) the visited set only grows, (b) the whole stack ends up visited, (c) every newly visited node
is a stack element or reachable from one, (d) the successors of every newly visited node are
visited. -/
theorem closureLoop_spec (d : List (Name × List Name)) (stack result : List Name) :
    (∀ y ∈ result, y ∈ closureLoop d stack result) ∧
    (∀ y ∈ stack, y ∈ closureLoop d stack result) ∧
    (∀ y ∈ closureLoop d stack result, y ∉ result →
      ∃ s ∈ stack, s = y ∨ Reach (Direct d) s y) ∧
    (∀ y ∈ closureLoop d stack result, y ∉ result →
      ∀ z ∈ succs d y, z ∈ closureLoop d stack result) := by
  fun_induction closureLoop d stack result with
  | case1 result =>
    refine ⟨fun y h => h, fun y h => absurd h (by simp), fun y h hn => absurd h hn,
      fun y h hn => absurd h hn⟩
  | case2 result x rest hx ih =>
    obtain ⟨ha, hb, hc, hd⟩ := ih
    refine ⟨ha, ?_, ?_, hd⟩
    · intro y hy
      rcases List.mem_cons.mp hy with e | h
      · rw [e]; exact ha x hx
      · exact hb y h
    · intro y hy hn
      obtain ⟨s, hs, hr⟩ := hc y hy hn
      exact ⟨s, List.mem_cons_of_mem _ hs, hr⟩
  | case3 result x rest hx ih =>
    obtain ⟨ha, hb, hc, hd⟩ := ih
    refine ⟨fun y h => ha y (List.mem_cons_of_mem _ h), ?_, ?_, ?_⟩
    · intro y hy
      rcases List.mem_cons.mp hy with e | h
      · rw [e]; exact ha x List.mem_cons_self
      · exact hb y (List.mem_append_right _ h)
    · intro y hy hn
      by_cases hyx : y = x
      · exact ⟨x, List.mem_cons_self, Or.inl hyx.symm⟩
      · have hn' : y ∉ x :: result := fun h => (List.mem_cons.mp h).elim hyx hn
        obtain ⟨s, hs, hr⟩ := hc y hy hn'
        rcases List.mem_append.mp hs with h | h
        · have hxs : Direct d x s := List.mem_reverse.mp h
          refine ⟨x, List.mem_cons_self, Or.inr ?_⟩
          rcases hr with e | hr
          · rw [← e]; exact Reach.single hxs
          · exact Reach.head hxs hr
        · exact ⟨s, List.mem_cons_of_mem _ h, hr⟩
    · intro y hy hn z hz
      by_cases hyx : y = x
      · rw [hyx] at hz
        exact hb z (List.mem_append_left _ (List.mem_reverse.mpr hz))
      · have hn' : y ∉ x :: result := fun h => (List.mem_cons.mp h).elim hyx hn
        exact hd y hy hn' z hz

/-- **The closure is exact**: `complete_internal_imports(p)` is the set of programs reachable from
`p` by one or more direct importations — for every dictionary. -/
theorem mem_closureOf {d : List (Name × List Name)} {p y : Name} :
    y ∈ closureOf d p ↔ Reach (Direct d) p y := by
  obtain ⟨_, hb, hc, hd⟩ := closureLoop_spec d (succs d p).reverse []
  constructor
  · intro hy
    obtain ⟨s, hs, hr⟩ := hc y hy (by simp)
    have hps : Direct d p s := List.mem_reverse.mp hs
    rcases hr with e | hr
    · rw [← e]; exact Reach.single hps
    · exact Reach.head hps hr
  · intro h
    induction h with
    | single h => exact hb _ (List.mem_reverse.mpr h)
    | tail _ hbc ih => exact hd _ ih (by simp) _ hbc

end Paroxy.DB
