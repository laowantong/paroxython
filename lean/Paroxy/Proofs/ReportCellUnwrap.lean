/-
`fill` on an alternating word / single-space chunk list; then: when no chunk is longer than the first
line, the wrapping loop cuts the chunk list at single spaces only, so the lines joined by ONE space are
the text (`C17_cell_unwrap`).
-/
import Paroxy.Proofs.ReportCell
namespace Paroxy.ReportCell
open Paroxy

/-- A word: non-empty, without space, at most `n` characters. -/
def Word (n : Nat) (w : Str) : Prop := w ≠ [] ∧ ' ' ∉ w ∧ w.length ≤ n

/-- An alternating chunk list `w₀, " ", w₁, " ", …, w_k` (k ≥ 0), every word at most `n` long. -/
def Alt (n : Nat) : List Str → Prop
  | [] => False
  | [w] => Word n w
  | w :: s :: rest => Word n w ∧ s = [' '] ∧ Alt n rest

theorem Word.not_ws {n : Nat} {w : Str} (h : Word n w) : isWs w = false := by
  obtain ⟨h1, h2, _⟩ := h
  cases w with
  | nil => exact absurd rfl h1
  | cons x u =>
    apply isWs_cons_ne
    intro hx
    apply h2
    simp [hx]

theorem Word.pos {n : Nat} {w : Str} (h : Word n w) : 1 ≤ n :=
  Nat.le_trans (List.length_pos_iff.mpr h.1) h.2.2

theorem Alt.ne_nil {n : Nat} {cs : List Str} (h : Alt n cs) : cs ≠ [] := by
  intro hc; subst hc; exact h

theorem Alt.head {n : Nat} {c : Str} {t : List Str} (h : Alt n (c :: t)) : Word n c := by
  cases t with
  | nil => exact h
  | cons s r => exact h.1

theorem Alt.flatten_ne_nil {n : Nat} {cs : List Str} (h : Alt n cs) : cs.flatten ≠ [] := by
  cases cs with
  | nil => exact absurd h (by simp [Alt])
  | cons c t =>
    have := h.head.1
    simp [this]

theorem dropLastWs_alt {n : Nat} (l : List Str) (h : Alt n l) : dropLastWs l = l := by
  induction l using Alt.induct with
  | case1 => rfl
  | case2 w =>
    have : isWs w = false := Word.not_ws h
    simp [dropLastWs, this]
  | case3 w s rest ih =>
    obtain ⟨_, hs, hr⟩ := h
    subst hs
    cases rest with
    | nil => exact absurd hr (by simp [Alt])
    | cons c t =>
      have ih := ih hr
      simp only [dropLastWs] at ih ⊢
      rw [ih]

theorem dropLastWs_snoc_ws (l : List Str) : dropLastWs (l ++ [[' ']]) = l := by
  induction l with
  | nil => simp [dropLastWs, isWs]
  | cons c l ih =>
    cases l with
    | nil => simp [dropLastWs, isWs]
    | cons d t =>
      simp only [List.cons_append] at ih ⊢
      simp only [dropLastWs]
      rw [ih]

/-- What `fill` does on an alternating list: nothing (the first word does not fit), everything, or a cut
just before a space / just after a space. -/
def FillRes (n : Nat) (cs : List Str) (f : List Str × List Str) : Prop :=
  (f.1 = [] ∧ f.2 = cs) ∨ (f.2 = [] ∧ f.1 = cs) ∨
  (∃ r', f.2 = [' '] :: r' ∧ Alt n r' ∧ Alt n f.1) ∨
  (Alt n f.2 ∧ ∃ l0, f.1 = l0 ++ [[' ']] ∧ Alt n l0)

theorem fill_alt (n : Nat) (w : Int) : ∀ (cur : Nat) (cs : List Str), Alt n cs → FillRes n cs (fill w cur cs) := by
  intro cur cs h
  induction cs using Alt.induct generalizing cur with
  | case1 => exact absurd h (by simp [Alt])
  | case2 c =>
    unfold fill
    split
    · right; left; simp [fill]
    · left; simp
  | case3 c s rest ih =>
    obtain ⟨hc, hs, hr⟩ := h
    subst hs
    unfold fill
    split
    · unfold fill
      split
      · have hl1 : ([' '] : Str).length = 1 := rfl
        simp only [hl1]
        rcases ih (cur + c.length + 1) hr with ⟨h1, h2⟩ | ⟨h1, h2⟩ | ⟨r', h1, h2, h3⟩ | ⟨h1, l0, h2, h3⟩
        · right; right; right
          refine ⟨by simpa [h2] using hr, [c], ?_, hc⟩
          simp [h1]
        · right; left
          simp [h1, h2]
        · right; right; left
          refine ⟨r', by simpa using h1, h2, ?_⟩
          exact ⟨hc, rfl, h3⟩
        · right; right; right
          refine ⟨h1, c :: [' '] :: l0, by simp [h2], ?_⟩
          exact ⟨hc, rfl, h3⟩
      · right; right; left
        exact ⟨rest, rfl, hr, hc⟩
    · left; simp

/-- One pass on an alternating list whose words fit on the line: an alternating line, and what remains
is nothing, or a space and an alternating list, or an alternating list after a dropped space. -/
theorem step_alt (n W ind : Nat) (first : Bool) (hn : (n : Int) ≤ (W : Int) - (ind : Int))
    (c : Str) (t : List Str) (h : Alt n (c :: t)) :
    Alt n (step W ind first c t).1 ∧
    (((step W ind first c t).2 = [] ∧ (step W ind first c t).1 = c :: t) ∨
     (∃ r', ((step W ind first c t).2 = [' '] :: r' ∨ (step W ind first c t).2 = r') ∧ Alt n r' ∧
        c :: t = (step W ind first c t).1 ++ [' '] :: r')) := by
  have hcw := h.head
  unfold step
  have hws : (!first && isWs c) = false := by simp [hcw.not_ws]
  simp only [hws, Bool.false_eq_true, if_false]
  generalize hwd : ((W : Int) - (if first = true then (ind : Int) else 0)) = w
  have hnw : (n : Int) ≤ w := by
    subst hwd
    split <;> omega
  have hfa := fill_append w 0 (c :: t)
  have hfr := fill_alt n w 0 (c :: t) h
  -- the first word fits, so something is put on the line
  have hne : (fill w 0 (c :: t)).1 ≠ [] := by
    rcases fill_handleLong_head w c t with ⟨h3, _⟩ | ⟨l, hl⟩
    · exact absurd (Int.le_trans (Int.ofNat_le.mpr hcw.2.2) hnw) h3
    · rw [hl]; exact List.cons_ne_nil _ _
  generalize fill w 0 (c :: t) = f at hfa hfr hne ⊢
  obtain ⟨f1, f2⟩ := f
  simp only [FillRes] at hfa hfr hne ⊢
  rcases hfr with ⟨h1, _⟩ | ⟨rfl, rfl⟩ | ⟨r', rfl, h2, h3⟩ | ⟨h1, l0, rfl, h3⟩
  · exact absurd h1 hne
  · simp only [handleLong]
    rw [dropLastWs_alt _ h]
    exact ⟨h, .inl (by simp)⟩
  · rw [handleLong_id w _ _ _ (Int.le_trans (Int.ofNat_le.mpr hcw.pos) hnw)]
    simp only
    rw [dropLastWs_alt _ h3]
    exact ⟨h3, .inr ⟨r', .inl rfl, h2, hfa.symm⟩⟩
  · cases f2 with
    | nil => exact absurd h1 (by simp [Alt])
    | cons r rs =>
      rw [handleLong_id w _ _ _ (Int.le_trans (Int.ofNat_le.mpr h1.head.2.2) hnw)]
      simp only
      rw [dropLastWs_snoc_ws]
      exact ⟨h3, .inr ⟨r :: rs, .inr rfl, h1, by rw [← hfa]; simp⟩⟩

theorem wrapLoop_nil (W ind fuel : Nat) (b : Bool) : wrapLoop W ind fuel b [] = [] := by
  cases fuel <;> simp [wrapLoop]

theorem wrapLoop_skip (n W ind fuel : Nat) (cs : List Str) (h : Alt n cs) :
    wrapLoop W ind fuel false ([' '] :: cs) = wrapLoop W ind fuel false cs := by
  cases fuel with
  | zero => rfl
  | succ fuel =>
    cases cs with
    | nil => exact absurd h (by simp [Alt])
    | cons c t =>
      have hc : isWs c = false := h.head.not_ws
      have : step W ind false [' '] (c :: t) = step W ind false c t := by
        have hsp : isWs [' '] = true := by decide
        simp [step, hsp, hc]
      simp only [wrapLoop, this]

theorem unwrap_cons (a : Str) (L : List Str) (h : L ≠ []) : unwrap (a :: L) = a ++ ' ' :: unwrap L := by
  cases L with
  | nil => exact absurd rfl h
  | cons b t => simp [unwrap, joinWith]

theorem wrapLoop_alt (n W ind : Nat) (hn : (n : Int) ≤ (W : Int) - (ind : Int)) :
    ∀ (fuel : Nat) (first : Bool) (cs : List Str), Alt n cs → measure cs < fuel →
      unwrap (wrapLoop W ind fuel first cs) = cs.flatten := by
  intro fuel
  induction fuel with
  | zero => intro _ _ _ h; omega
  | succ fuel ih =>
    intro first cs h hm
    cases cs with
    | nil => exact absurd h (by simp [Alt])
    | cons c t =>
      obtain ⟨hl, hrest⟩ := step_alt n W ind first hn c t h
      unfold wrapLoop
      simp only
      rw [List.isEmpty_eq_false_iff.mpr hl.ne_nil]
      simp only [Bool.false_eq_true, if_false]
      rcases hrest with ⟨h2, h1⟩ | ⟨r', h2, hr', heq⟩
      · rw [h2, h1, wrapLoop_nil]
        simp [unwrap, joinWith]
      · have hmr : measure r' < fuel := by
          have := congrArg measure heq
          rw [measure_append, measure_cons [' '] r'] at this
          omega
        have hloop : wrapLoop W ind fuel false (step W ind first c t).2 = wrapLoop W ind fuel false r' := by
          rcases h2 with h2 | h2
          · rw [h2]
            exact wrapLoop_skip n W ind fuel r' hr'
          · rw [h2]
        rw [hloop]
        have ihr := ih false r' hr' hmr
        have hLne : wrapLoop W ind fuel false r' ≠ [] := by
          intro hL
          rw [hL] at ihr
          exact hr'.flatten_ne_nil ihr.symm
        rw [unwrap_cons _ _ hLne, ihr]
        conv => rhs; rw [heq]
        simp

theorem splitChunks_word (w : Str) (hw : w ≠ []) (hx : ' ' ∉ w) (s : Str) (hs : ∀ y t, s = y :: t → y = ' ') :
    splitChunks (w ++ s) = w :: splitChunks s := by
  induction w with
  | nil => exact absurd rfl hw
  | cons x w ih =>
    have hx' : x ≠ ' ' := by intro h; apply hx; simp [h]
    cases w with
    | nil =>
      cases s with
      | nil => simp [splitChunks]
      | cons y t =>
        have hy := hs y t rfl
        subst hy
        obtain ⟨w', r, hw'⟩ := splitChunks_head ' ' t
        simp only [List.cons_append, List.nil_append]
        rw [splitChunks.eq_2, hw']
        simp [hx']
    | cons y w =>
      have hy' : y ≠ ' ' := by intro h; apply hx; simp [h]
      have ih := ih (by simp) (by intro h; apply hx; simp [h])
      simp only [List.cons_append] at ih ⊢
      rw [splitChunks.eq_2, ih]
      have e1 : (x == ' ') = false := beq_eq_false_iff_ne.2 hx'
      have e2 : (y == ' ') = false := beq_eq_false_iff_ne.2 hy'
      simp [e1, e2]

theorem splitChunks_space (x : Char) (t : Str) (hx : x ≠ ' ') :
    splitChunks (' ' :: x :: t) = [' '] :: splitChunks (x :: t) := by
  obtain ⟨w', r, hw'⟩ := splitChunks_head x t
  rw [splitChunks.eq_2, hw']
  simp [hx]

/-- The chunks of `joinSpans (p :: ps)`. -/
def spanChunks : (Nat × Nat) → List (Nat × Nat) → List Str
  | p, [] => [coupleToString (toSpan p)]
  | p, q :: t => (coupleToString (toSpan p) ++ [',']) :: [' '] :: spanChunks q t

theorem couple_no_space (p : Nat × Nat) : ' ' ∉ coupleToString (toSpan p) := by
  intro h
  exact (wordCh_ne ' ' (couple_word p ' ' h)).1 rfl

theorem couple_comma_no_space (p : Nat × Nat) : ' ' ∉ coupleToString (toSpan p) ++ [','] := by
  simp only [List.mem_append, List.mem_singleton, not_or]
  exact ⟨couple_no_space p, by decide⟩

theorem splitChunks_join : ∀ (p : Nat × Nat) (ps : List (Nat × Nat)),
    splitChunks (joinSpans ((p :: ps).map toSpan)) = spanChunks p ps := by
  intro p ps
  induction ps generalizing p with
  | nil =>
    have := splitChunks_word _ (couple_ne_nil p) (couple_no_space p) [] (by simp)
    simpa [joinSpans, spanChunks, splitChunks] using this
  | cons q t ih =>
    have ih := ih q
    have hne := join_ne_nil q t
    cases hj : joinSpans ((q :: t).map toSpan) with
    | nil => exact absurd hj hne
    | cons x u =>
      have hx : x ≠ ' ' := join_head (q :: t) x u hj
      have h1 := splitChunks_word (coupleToString (toSpan p) ++ [',']) (by simp) (couple_comma_no_space p)
        (' ' :: x :: u) (by intro y t' h; injection h with h _; exact h.symm)
      have h2 := splitChunks_space x u hx
      rw [hj] at ih
      simp only [List.map_cons, joinSpans, spanChunks] at hj ⊢
      rw [hj]
      simp only [List.append_assoc, List.cons_append, List.nil_append] at h1
      rw [h1, h2, ih]

theorem spanChunks_alt (n : Nat) (p : Nat × Nat) (ps : List (Nat × Nat))
    (h : ∀ c ∈ spanChunks p ps, c.length ≤ n) : Alt n (spanChunks p ps) := by
  induction ps generalizing p with
  | nil => exact ⟨couple_ne_nil p, couple_no_space p, h _ (by simp [spanChunks])⟩
  | cons q t ih =>
    simp only [spanChunks, List.forall_mem_cons] at h
    exact ⟨⟨by simp, couple_comma_no_space p, h.1⟩, rfl, ih q h.2.2⟩

theorem unwrap_wrapContents (W ind : Nat) (ps : List (Nat × Nat))
    (h : chunksWithin (W - ind) (joinSpans (ps.map toSpan)) = true) :
    unwrap (wrapContents W ind (joinSpans (ps.map toSpan))) = joinSpans (ps.map toSpan) := by
  cases ps with
  | nil => simp [joinSpans, wrapContents, splitChunks, wrapLoop, unwrap, joinWith]
  | cons p t =>
    unfold chunksWithin at h
    rw [splitChunks_join] at h
    have halt : Alt (W - ind) (spanChunks p t) := by
      apply spanChunks_alt
      intro c hc
      have := List.all_eq_true.1 h c hc
      simpa using this
    have h1 : 1 ≤ W - ind := by
      cases hsc : spanChunks p t with
      | nil => exact absurd hsc halt.ne_nil
      | cons c r => rw [hsc] at halt; exact halt.head.pos
    have := wrapLoop_alt (W - ind) W ind (by omega) (measure (spanChunks p t) + 1) true (spanChunks p t) halt (by omega)
    unfold wrapContents
    simp only
    rw [splitChunks_join, this, ← splitChunks_join, splitChunks_flatten]

end Paroxy.ReportCell
