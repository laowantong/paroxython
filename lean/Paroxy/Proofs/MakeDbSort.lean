/-
The sorting primitives (`insort`, `insortNew`, `sortU`) and Python's order.
-/
import Paroxy.Spec.MakeDb
namespace Paroxy.DB
open Std

set_option linter.unusedSectionVars false
section SortSec
variable {α : Type} [Ord α] [DecidableEq α] [TransOrd α] [LawfulEqOrd α]

theorem ltB_iff {a b : α} : ltB a b = true ↔ compare a b = .lt := by
  simp [ltB]

theorem lt_of_not_lt_ne {a b : α} (h : ¬ compare a b = .lt) (hne : a ≠ b) : compare b a = .lt := by
  cases hc : compare a b with
  | lt => exact absurd hc h
  | eq => exact absurd (LawfulEqOrd.compare_eq_iff_eq.mp hc) hne
  | gt => exact OrientedCmp.lt_of_gt hc

theorem lt_irrefl' {a : α} : ¬ compare a a = .lt := by
  rw [ReflOrd.compare_self]; simp

theorem mem_insort {a x : α} {l : List α} : x ∈ insort a l ↔ x = a ∨ x ∈ l := by
  induction l with
  | nil => simp [insort]
  | cons b t ih =>
    unfold insort
    split
    · simp
    · simp only [List.mem_cons, ih]
      exact or_left_comm

theorem strictSorted_insort {a : α} {l : List α} (hs : StrictSorted l) (ha : a ∉ l) :
    StrictSorted (insort a l) := by
  induction l with
  | nil => simp [insort, StrictSorted]
  | cons b t ih =>
    unfold StrictSorted at hs ⊢
    rw [List.pairwise_cons] at hs
    unfold insort
    split
    · rename_i hlt
      have hab : compare a b = .lt := ltB_iff.mp hlt
      rw [List.pairwise_cons]
      refine ⟨?_, List.pairwise_cons.mpr hs⟩
      intro x hx
      rcases List.mem_cons.mp hx with h | h
      · rw [h]; exact hab
      · exact TransCmp.lt_trans hab (hs.1 x h)
    · rename_i hlt
      have hnlt : ¬ compare a b = .lt := fun h => hlt (ltB_iff.mpr h)
      have hne : a ≠ b := fun h => ha (h ▸ List.mem_cons_self)
      have hba : compare b a = .lt := lt_of_not_lt_ne hnlt hne
      rw [List.pairwise_cons]
      refine ⟨?_, ih hs.2 (fun h => ha (List.mem_cons_of_mem _ h))⟩
      intro x hx
      rcases mem_insort.mp hx with h | h
      · rw [h]; exact hba
      · exact hs.1 x h

theorem mem_insortNew {a x : α} {l : List α} : x ∈ insortNew a l ↔ x = a ∨ x ∈ l := by
  unfold insortNew
  split
  · rename_i h
    constructor
    · exact Or.inr
    · rintro (h' | h')
      · rw [h']; exact h
      · exact h'
  · exact mem_insort

theorem strictSorted_insortNew {a : α} {l : List α} (hs : StrictSorted l) :
    StrictSorted (insortNew a l) := by
  unfold insortNew
  split
  · exact hs
  · rename_i h; exact strictSorted_insort hs h

theorem insortNew_idem {a : α} {l : List α} : insortNew a (insortNew a l) = insortNew a l := by
  have : a ∈ insortNew a l := mem_insortNew.mpr (Or.inl rfl)
  show (if a ∈ insortNew a l then insortNew a l else insort a (insortNew a l)) = _
  rw [if_pos this]

theorem mem_sortU {x : α} {l : List α} : x ∈ sortU l ↔ x ∈ l := by
  induction l with
  | nil => simp [sortU]
  | cons a t ih =>
    have : sortU (a :: t) = insortNew a (sortU t) := rfl
    rw [this, mem_insortNew, ih, List.mem_cons]

theorem strictSorted_sortU (l : List α) : StrictSorted (sortU l) := by
  induction l with
  | nil => simp [sortU, StrictSorted]
  | cons a t ih =>
    have : sortU (a :: t) = insortNew a (sortU t) := rfl
    rw [this]; exact strictSorted_insortNew ih

theorem StrictSorted.nodup {l : List α} (h : StrictSorted l) : l.Nodup := by
  unfold StrictSorted at h
  exact h.imp (fun {a b} hab heq => by rw [heq] at hab; exact lt_irrefl' hab)

theorem strictSorted_ext {l₁ l₂ : List α} (h₁ : StrictSorted l₁) (h₂ : StrictSorted l₂)
    (h : ∀ x, x ∈ l₁ ↔ x ∈ l₂) : l₁ = l₂ :=
  List.Perm.eq_of_pairwise (le := fun a b => compare a b = .lt)
    (fun _ _ _ _ hab hba => absurd (TransCmp.lt_trans hab hba) lt_irrefl') h₁ h₂
    ((List.perm_ext_iff_of_nodup h₁.nodup h₂.nodup).mpr h)

end SortSec

/-! ## Spans: projecting sorted triples gives sorted pairs -/

theorem compare_prod {α β : Type} [Ord α] [Ord β] (a b : α × β) :
    @compare (α × β) lexOrd a b = (compare a.1 b.1).then (compare a.2 b.2) := rfl

theorem poor_le_of_lt {a b : Span3} (h : compare a b = .lt) :
    compare (Span3.poor a) (Span3.poor b) ≠ .gt := by
  obtain ⟨a1, a2, a3⟩ := a
  obtain ⟨b1, b2, b3⟩ := b
  change @compare (Int × Int × Name) lexOrd (a1, a2, a3) (b1, b2, b3) = .lt at h
  change @compare (Int × Int) lexOrd (a1, a2) (b1, b2) ≠ .gt
  rw [compare_prod] at h ⊢
  simp only at h ⊢
  change (compare a1 b1).then (@compare (Int × Name) lexOrd (a2, a3) (b2, b3)) = .lt at h
  rw [compare_prod] at h
  simp only at h
  cases h1 : compare a1 b1 <;> rw [h1] at h <;> simp [Ordering.then] at h ⊢
  cases h2 : compare a2 b2 <;> rw [h2] at h <;> simp at h ⊢

theorem sorted_preparedSpans (spans : List Span3) : Sorted (preparedSpans spans) := by
  unfold preparedSpans Sorted
  have h := strictSorted_sortU spans
  unfold StrictSorted at h
  rw [List.pairwise_map]
  exact h.imp (fun {a b} hab => poor_le_of_lt hab)

theorem mem_preparedSpans {spans : List Span3} {s : PoorSpan} :
    s ∈ preparedSpans spans ↔ ∃ t ∈ spans, Span3.poor t = s := by
  unfold preparedSpans
  simp only [List.mem_map, mem_sortU]

end Paroxy.DB
