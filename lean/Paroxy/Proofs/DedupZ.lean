/-
The combinatorial core of C10, one span at a time.

Every Counter operation of `deduplicated_taxa` acts count-wise, so for a fixed span `s` the whole
function is the integer program `outerZ` below on the list `(name, count of s)`. The three clauses
of the property are proved here for that program, for an abstract "proper ancestor" relation `desc`
(`desc a d` = `a` is a proper ancestor of `d`) which is a strict order whose up-sets are chains
(a forest), and any list order in which no name comes before one of its ancestors.
-/
import Paroxy.Model.Dedup
import Paroxy.Proofs.Assoc
namespace Paroxy.DedupZ
variable {ν : Type} [DecidableEq ν]
set_option linter.unusedSectionVars false

structure AncRel (desc : ν → ν → Bool) : Prop where
  irrefl : ∀ a, desc a a = false
  trans : ∀ {a b c}, desc a b = true → desc b c = true → desc a c = true
  chain : ∀ {a b c}, desc a c = true → desc b c = true → a = b ∨ desc a b = true ∨ desc b a = true

def getZ : List (ν × Int) → ν → Int
  | [], _ => 0
  | (m, b) :: t, n => if m = n then b else getZ t n

@[simp] theorem getZ_nil (n : ν) : getZ ([] : List (ν × Int)) n = 0 := rfl
@[simp] theorem getZ_cons (m : ν) (b : Int) (t : List (ν × Int)) (n : ν) :
    getZ ((m, b) :: t) n = if m = n then b else getZ t n := rfl

theorem getZ_isLookup : Assoc.IsLookup (getZ (ν := ν)) 0 id := ⟨getZ_nil, getZ_cons⟩

theorem getZ_of_not_mem {l : List (ν × Int)} {n : ν} (h : n ∉ l.map Prod.fst) : getZ l n = 0 :=
  getZ_isLookup.of_not_mem h

theorem getZ_of_mem {l : List (ν × Int)} (hl : (l.map Prod.fst).Nodup) {n : ν} {b : Int}
    (h : (n, b) ∈ l) : getZ l n = b :=
  getZ_isLookup.of_mem hl h

theorem mem_of_mem_names {l : List (ν × Int)} {n : ν} (h : n ∈ l.map Prod.fst) :
    (n, getZ l n) ∈ l := by
  rcases getZ_isLookup.cases l n with ⟨hn, _⟩ | ⟨b, hb, hg⟩
  · exact absurd h hn
  · exact hg ▸ hb

theorem getZ_nonneg {l : List (ν × Int)} (h : ∀ e ∈ l, 0 ≤ e.2) (n : ν) : 0 ≤ getZ l n :=
  getZ_isLookup.ind (P := (0 ≤ ·)) (Int.le_refl 0) h n

variable (desc : ν → ν → Bool)

/-- Inner loop on the counts of one span. -/
def innerZ (name : ν) : List (ν × Int) → Int → List (ν × Int)
  | [], _ => []
  | (p, b) :: rest, cur =>
    if desc p name then (p, b - cur) :: innerZ name rest (max (cur - b) 0)
    else (p, b) :: innerZ name rest cur

/-- The value of the running variable `spans` (at this span) after scanning a list. -/
def curZ (name : ν) : List (ν × Int) → Int → Int
  | [], cur => cur
  | (p, b) :: rest, cur => curZ name rest (if desc p name then max (cur - b) 0 else cur)

def outerZ : List (ν × Int) → List (ν × Int) → List (ν × Int)
  | doneRev, [] => doneRev.reverse
  | doneRev, (n, r) :: todo => outerZ ((n, r) :: innerZ desc n doneRev r) todo

theorem innerZ_cons (name p : ν) (b : Int) (rest : List (ν × Int)) (cur : Int) :
    innerZ desc name ((p, b) :: rest) cur =
      (p, if desc p name then b - cur else b) :: innerZ desc name rest (curZ desc name [(p, b)] cur) := by
  by_cases h : desc p name = true <;> simp only [innerZ, curZ, h, if_true, if_false, Bool.false_eq_true]

theorem names_innerZ (name : ν) (prev : List (ν × Int)) :
    ∀ cur, (innerZ desc name prev cur).map Prod.fst = prev.map Prod.fst := by
  induction prev with
  | nil => intro cur; rfl
  | cons e t ih => intro cur; rw [innerZ_cons, List.map_cons, List.map_cons, ih]

theorem curZ_nonneg (name : ν) (l : List (ν × Int)) : ∀ cur, 0 ≤ cur → 0 ≤ curZ desc name l cur := by
  induction l with
  | nil => intro cur h; exact h
  | cons e t ih => intro cur h; exact ih _ (by split <;> omega)

theorem curZ_ge (name : ν) (l : List (ν × Int))
    (hl : ∀ e ∈ l, desc e.1 name = true → e.2 ≤ 0) :
    ∀ cur c, c ≤ cur → c ≤ curZ desc name l cur := by
  induction l with
  | nil => intro cur c h; exact h
  | cons e t ih =>
    intro cur c h
    refine ih (fun e he => hl e (List.mem_cons_of_mem _ he)) _ c ?_
    split
    · have := hl e List.mem_cons_self ‹_›
      omega
    · exact h

theorem curZ_zero (name : ν) (l : List (ν × Int)) (hl : ∀ e ∈ l, desc e.1 name = true → 0 ≤ e.2) :
    curZ desc name l 0 = 0 := by
  induction l with
  | nil => rfl
  | cons e t ih =>
    have : (if desc e.1 name then max (0 - e.2) 0 else 0) = 0 := by
      split
      · have := hl e List.mem_cons_self ‹_›
        omega
      · rfl
    rw [curZ, this]
    exact ih fun e he => hl e (List.mem_cons_of_mem _ he)

/-- An entry after the scan: what it was before, less — when its name is an ancestor of `name` — the value of the
running variable when the scan reached it. -/
theorem entry_innerZ (name : ν) (prev : List (ν × Int)) :
    ∀ cur p b', (p, b') ∈ innerZ desc name prev cur →
      ∃ pre b post, prev = pre ++ (p, b) :: post ∧
        b' = if desc p name then b - curZ desc name pre cur else b := by
  induction prev with
  | nil => intro cur p b' h; cases h
  | cons e t ih =>
    obtain ⟨q, c⟩ := e
    intro cur p b' h
    rw [innerZ_cons] at h
    rcases List.mem_cons.mp h with h | h
    · cases h; exact ⟨[], c, t, rfl, rfl⟩
    · obtain ⟨pre, b, post, rfl, hb⟩ := ih _ p b' h
      exact ⟨(q, c) :: pre, b, post, rfl, hb⟩

theorem mem_innerZ_le (name : ν) (prev : List (ν × Int)) (cur : Int) (hcur : 0 ≤ cur) (p : ν) (b' : Int)
    (h : (p, b') ∈ innerZ desc name prev cur) : ∃ b, (p, b) ∈ prev ∧ b' ≤ b := by
  obtain ⟨pre, b, post, rfl, hb⟩ := entry_innerZ desc name prev cur p b' h
  have := curZ_nonneg desc name pre cur hcur
  exact ⟨b, by simp, by split at hb <;> omega⟩

/-- Induction principle over the outer loop: `proc` is the prefix already processed (raw values),
`done` the reversed prefix with its current values (same names, whatever the invariant). -/
theorem outerZ_ind (L : List (ν × Int)) (P : List (ν × Int) → List (ν × Int) → Prop)
    (h0 : P [] [])
    (hs : ∀ proc done n r todo, L = proc ++ (n, r) :: todo →
      done.map Prod.fst = (proc.map Prod.fst).reverse → P proc done →
      P (proc ++ [(n, r)]) ((n, r) :: innerZ desc n done r)) :
    P L (outerZ desc [] L).reverse ∧ (outerZ desc [] L).map Prod.fst = L.map Prod.fst := by
  suffices h : ∀ todo proc done, L = proc ++ todo →
      done.map Prod.fst = (proc.map Prod.fst).reverse → P proc done →
      P L (outerZ desc done todo).reverse ∧ (outerZ desc done todo).map Prod.fst = L.map Prod.fst from
    h L [] [] rfl rfl h0
  intro todo
  induction todo with
  | nil =>
    intro proc done hL hn hP
    simp only [List.append_nil] at hL
    subst hL
    simp [outerZ, hP, hn]
  | cons e t ih =>
    obtain ⟨n, r⟩ := e
    intro proc done hL hn hP
    exact ih (proc ++ [(n, r)]) _ (by simp [hL]) (by simp [names_innerZ, hn]) (hs proc done n r t hL hn hP)

theorem names_outerZ (L : List (ν × Int)) : (outerZ desc [] L).map Prod.fst = L.map Prod.fst :=
  (outerZ_ind desc L (fun _ _ => True) trivial fun _ _ _ _ _ _ _ _ => trivial).2

section Theorems
variable {desc}

/-! ### Clause 1: no invention -/

/-- One step of the outer loop keeps every current value below the raw one. -/
theorem le_step {L proc done todo : List (ν × Int)} {n : ν} {r : Int} (hnd : (L.map Prod.fst).Nodup)
    (hnn : ∀ e ∈ L, 0 ≤ e.2) (hL : L = proc ++ (n, r) :: todo)
    (hP : ∀ p b, (p, b) ∈ done → b ≤ getZ L p) :
    ∀ p b, (p, b) ∈ (n, r) :: innerZ desc n done r → b ≤ getZ L p := by
  intro p b hm
  rcases List.mem_cons.mp hm with hm | hm
  · have hmem : (p, b) ∈ L := by rw [hL, hm]; simp
    exact Int.le_of_eq (getZ_of_mem hnd hmem).symm
  · have hr : 0 ≤ r := hnn (n, r) (by rw [hL]; simp)
    obtain ⟨b₀, hb₀, hle⟩ := mem_innerZ_le desc n done r hr p b hm
    exact Int.le_trans hle (hP p b₀ hb₀)

theorem Z_no_invention (L : List (ν × Int)) (hnd : (L.map Prod.fst).Nodup)
    (hnn : ∀ e ∈ L, 0 ≤ e.2) (n : ν) (b : Int) (h : (n, b) ∈ outerZ desc [] L) :
    b ≤ getZ L n :=
  (outerZ_ind desc L (fun _ done => ∀ p b, (p, b) ∈ done → b ≤ getZ L p) (by intro p b h; cases h)
    fun _ _ _ _ _ hL _ hP => le_step hnd hnn hL hP).1 n b (by simpa using h)

/-! ### Clause 2: unshared kept -/

/-- None of the proper descendants of `p` in `L` carries the span. -/
def Unshared (desc : ν → ν → Bool) (L : List (ν × Int)) (p : ν) : Prop :=
  ∀ d ∈ L.map Prod.fst, desc p d = true → getZ L d = 0

theorem unshared_of_desc (hR : AncRel desc) {L : List (ν × Int)} {p q : ν}
    (hq : Unshared desc L q) (h : desc q p = true) : Unshared desc L p :=
  fun d hd hpd => hq d hd (hR.trans h hpd)

/-- In a list in which no name comes before one of its ancestors, an ancestor `q` of `d` standing before another
ancestor `p` of `d` is below `p`. -/
theorem desc_of_before (hR : AncRel desc) {pre post : List (ν × Int)} {p : ν} {b : Int}
    (hpw : ((pre ++ (p, b) :: post).map Prod.fst).Pairwise fun x y => desc x y = false)
    (hnd : ((pre ++ (p, b) :: post).map Prod.fst).Nodup) {q d : ν} (hq : q ∈ pre.map Prod.fst)
    (hqd : desc q d = true) (hpd : desc p d = true) : desc p q = true := by
  simp only [List.map_append, List.map_cons] at hpw hnd
  rw [List.pairwise_append] at hpw
  rw [List.nodup_append] at hnd
  rcases hR.chain hqd hpd with h | h | h
  · exact absurd h (hnd.2.2 q hq p List.mem_cons_self)
  · have := hpw.2.2 q hq p List.mem_cons_self
    simp [h] at this
  · exact h

/-- An unshared name keeps its raw count in the scan for `d`. When it is an ancestor of `d`, the running variable
starts at 0 (`hcur`) and stays there up to it: the ancestors of `d` met before it are unshared too, and hold their
raw counts. -/
theorem inner_unshared (hR : AncRel desc) (L : List (ν × Int)) (hnn : ∀ e ∈ L, 0 ≤ e.2) (d : ν)
    (prev : List (ν × Int)) (hpw : (prev.map Prod.fst).Pairwise fun x y => desc x y = false)
    (hnd : (prev.map Prod.fst).Nodup) (hB : ∀ p b, (p, b) ∈ prev → Unshared desc L p → b = getZ L p)
    (cur : Int) (hcur : ∀ q, desc q d = true → Unshared desc L q → cur = 0) (p : ν) (b' : Int)
    (hm : (p, b') ∈ innerZ desc d prev cur) (hU : Unshared desc L p) : b' = getZ L p := by
  obtain ⟨pre, b, post, rfl, hb⟩ := entry_innerZ desc d _ cur p b' hm
  rw [← hB p b (by simp) hU, hb]
  split
  · next hpd =>
    rw [hcur p hpd hU, curZ_zero, Int.sub_zero]
    intro e he hed
    have hUq := unshared_of_desc hR hU (desc_of_before hR hpw hnd (List.mem_map_of_mem he) hed hpd)
    rw [hB e.1 e.2 (by simp [he]) hUq]
    exact getZ_nonneg hnn e.1
  · rfl

/-- When `(n, r)` is taken off `todo`: what the order and the distinctness of the names of `L` say of the
processed part and of `n`. -/
theorem processed_facts {L proc todo : List (ν × Int)} {done : List (ν × Int)} {n : ν} {r : Int}
    (hord : (L.map Prod.fst).Pairwise fun x y => desc y x = false)
    (hnd : (L.map Prod.fst).Nodup)
    (hL : L = proc ++ (n, r) :: todo)
    (hnames : done.map Prod.fst = (proc.map Prod.fst).reverse) :
    (done.map Prod.fst).Pairwise (fun x y => desc x y = false) ∧ (done.map Prod.fst).Nodup ∧
      (∀ x ∈ done.map Prod.fst, x ∈ L.map Prod.fst) ∧
      (∀ x ∈ proc.map Prod.fst, desc n x = false) ∧ getZ L n = r := by
  subst hL
  simp only [List.map_append, List.map_cons] at hord hnd
  rw [List.pairwise_append] at hord
  rw [List.nodup_append] at hnd
  refine ⟨?_, ?_, ?_, ?_, ?_⟩
  · rw [hnames, List.pairwise_reverse]; exact hord.1
  · rw [hnames]
    exact List.pairwise_reverse.mpr (List.Pairwise.imp Ne.symm hnd.1)
  · intro x hx
    rw [hnames, List.mem_reverse] at hx
    simp [hx]
  · intro x hx
    exact hord.2.2 x hx n (by simp)
  · apply getZ_of_mem
    · simp only [List.map_append, List.map_cons]
      rw [List.nodup_append]; exact hnd
    · simp

theorem Z_unshared_kept (hR : AncRel desc) (L : List (ν × Int)) (hnd : (L.map Prod.fst).Nodup)
    (hord : (L.map Prod.fst).Pairwise fun x y => desc y x = false)
    (hnn : ∀ e ∈ L, 0 ≤ e.2) (n : ν) (hU : Unshared desc L n) (b : Int)
    (h : (n, b) ∈ outerZ desc [] L) : b = getZ L n := by
  have := (outerZ_ind desc L (fun _ done => ∀ p b, (p, b) ∈ done → Unshared desc L p → b = getZ L p)
    (by intro p b h; cases h)
    (by
      intro proc done d r todo hL hnames hP p b hm hUp
      obtain ⟨hpw, hndd, _, _, hget⟩ := processed_facts hord hnd hL hnames
      rcases List.mem_cons.mp hm with hm | hm
      · cases hm; exact hget.symm
      · refine inner_unshared hR L hnn d done hpw hndd hP r (fun q hqd hUq => ?_) p b hm hUp
        rw [← hget]
        exact hUq d (by rw [hL]; simp) hqd)).1
  exact this n b (by simpa using h) hU

/-! ### Clause 3: covered lost -/

/-- `d` is one of the nearest proper descendants of `n` carrying the span. -/
def nearZ (desc : ν → ν → Bool) (L : List (ν × Int)) (n d : ν) : Bool :=
  desc n d && decide (0 < getZ L d) &&
    L.all fun e => !(desc n e.1 && desc e.1 d && decide (0 < getZ L e.1))

def nearSumZ (desc : ν → ν → Bool) (L : List (ν × Int)) (n : ν) (P : List (ν × Int)) : Int :=
  ((P.filter fun e => nearZ desc L n e.1).map Prod.snd).sum

theorem nearSumZ_snoc (L : List (ν × Int)) (n : ν) (P : List (ν × Int)) (d : ν) (r : Int) :
    nearSumZ desc L n (P ++ [(d, r)]) = nearSumZ desc L n P + if nearZ desc L n d then r else 0 := by
  unfold nearSumZ
  rw [List.filter_append, List.map_append, List.sum_append]
  by_cases h : nearZ desc L n d <;> simp [h]

theorem Z_covered_lost (hR : AncRel desc) (L : List (ν × Int)) (hnd : (L.map Prod.fst).Nodup)
    (hord : (L.map Prod.fst).Pairwise fun x y => desc y x = false)
    (hnn : ∀ e ∈ L, 0 ≤ e.2) (n : ν) (hcov : getZ L n ≤ nearSumZ desc L n L) (b : Int)
    (h : (n, b) ∈ outerZ desc [] L) : b ≤ 0 := by
  have := (outerZ_ind desc L (fun proc done => (∀ p b, (p, b) ∈ done → b ≤ getZ L p) ∧
      ∀ b, (n, b) ∈ done → b ≤ getZ L n - nearSumZ desc L n proc)
    ⟨(by intro p b h; cases h), (by intro b h; cases h)⟩
    (by
      intro proc done d r todo hL hnames ⟨hA, hC⟩
      obtain ⟨hpw, hndd, hsub, hbefore, hget⟩ := processed_facts hord hnd hL hnames
      have hr : 0 ≤ r := hnn (d, r) (by rw [hL]; simp)
      refine ⟨le_step hnd hnn hL hA, fun b' hm => ?_⟩
      · rw [nearSumZ_snoc]
        rcases List.mem_cons.mp hm with hm | hm
        · -- `n` itself is being processed: none of its descendants has been seen yet
          cases hm
          have hnear : ∀ x, desc n x = false → nearZ desc L n x = false := fun x hx => by
            rw [nearZ, hx, Bool.false_and, Bool.false_and]
          have h0 : (proc.filter fun e => nearZ desc L n e.1) = [] :=
            List.filter_eq_nil_iff.mpr fun e he => by
              rw [hnear e.1 (hbefore e.1 (List.mem_map_of_mem he))]; exact Bool.false_ne_true
          rw [hnear n (hR.irrefl n), nearSumZ, h0, hget]
          simp
        · -- `n` is in the processed prefix
          obtain ⟨pre, b₀, post, hsplit, hb'⟩ := entry_innerZ desc d done r n b' hm
          have hC₀ := hC b₀ (by rw [hsplit]; simp)
          have hc0 : 0 ≤ curZ desc d pre r := curZ_nonneg desc d pre r hr
          by_cases hnear : nearZ desc L n d = true
          · simp only [hnear, if_true]
            have hnear' := hnear
            simp only [nearZ, Bool.and_eq_true, decide_eq_true_eq, List.all_eq_true] at hnear'
            obtain ⟨⟨hnd1, _⟩, hall⟩ := hnear'
            have hge : r ≤ curZ desc d pre r := by
              apply curZ_ge desc d pre _ r r (Int.le_refl _)
              intro e he hed
              obtain ⟨m, bm⟩ := e
              have hmdone : (m, bm) ∈ done := by rw [hsplit]; simp [he]
              rw [hsplit] at hpw hndd
              have h := desc_of_before hR hpw hndd (List.mem_map_of_mem (f := Prod.fst) he) hed hnd1
              have hmL : m ∈ L.map Prod.fst := hsub m (List.mem_map_of_mem (f := Prod.fst) hmdone)
              have hallm := hall _ (mem_of_mem_names hmL)
              simp only [h, hed, Bool.true_and, Bool.not_eq_true', decide_eq_false_iff_not] at hallm
              have := hA m bm hmdone
              simp only; omega
            simp only [hnd1, if_true] at hb'
            omega
          · rw [Bool.not_eq_true] at hnear
            simp only [hnear, Bool.false_eq_true, if_false]
            split at hb' <;> omega)).1
  have hfin := this.2 b (by simpa using h)
  omega

end Theorems
end Paroxy.DedupZ
