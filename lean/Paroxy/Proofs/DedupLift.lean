/-
From the integer program of `Proofs/DedupZ.lean` to the model `Dedup.dedup` on bags, and from the
exception-aware loops (`dedupE`) to the pure ones.
-/
import Paroxy.Spec.Dedup
import Paroxy.Proofs.Bag
import Paroxy.Proofs.DedupZ
namespace Paroxy.DedupLift
open Paroxy Paroxy.Dedup Paroxy.DedupZ Paroxy.Spec.Dedup
set_option linter.unusedSectionVars false
variable {ν σ : Type} [DecidableEq ν] [DecidableEq σ]

/-- Projection of a taxon on one span. -/
def atS (s : σ) (e : ν × Bag σ) : ν × Int := (e.1, Bag.count e.2 s)

def AllWF (l : List (ν × Bag σ)) : Prop := ∀ e ∈ l, Bag.WF e.2

variable (desc : ν → ν → Bool)

/-- The test of the inner loop in terms of `desc`: "`p` is a proper ancestor of `name`". -/
def actOf : ν → ν → Bool := fun name p => desc p name

theorem names_atS (s : σ) (l : List (ν × Bag σ)) : (l.map (atS s)).map Prod.fst = l.map Prod.fst := by
  simp [List.map_map, atS, Function.comp_def]

theorem getZ_atS (s : σ) (l : List (ν × Bag σ)) (n : ν) : getZ (l.map (atS s)) n = cnt l n s := by
  induction l with
  | nil => simp [cnt, bagOf]
  | cons e t ih =>
    obtain ⟨m, b⟩ := e
    simp only [List.map_cons, atS, getZ_cons, cnt, bagOf] at ih ⊢
    split
    · rfl
    · exact ih

theorem names_inner (act : ν → ν → Bool) (name : ν) (prev : List (ν × Bag σ)) :
    ∀ cur, (inner act name prev cur).map Prod.fst = prev.map Prod.fst := by
  induction prev with
  | nil => intro cur; rfl
  | cons e t ih =>
    obtain ⟨p, b⟩ := e
    intro cur
    simp only [inner]
    split <;> simp [ih]

theorem AllWF_inner (act : ν → ν → Bool) (name : ν) (prev : List (ν × Bag σ)) (h : AllWF prev) :
    ∀ cur, AllWF (inner act name prev cur) := by
  induction prev with
  | nil => intro cur e he; cases he
  | cons e t ih =>
    obtain ⟨p, b⟩ := e
    obtain ⟨hb, ht⟩ := List.forall_mem_cons.mp h
    intro cur
    rw [inner]
    split
    · exact List.forall_mem_cons.mpr ⟨Bag.WF_subtract hb cur, ih ht _⟩
    · exact List.forall_mem_cons.mpr ⟨hb, ih ht _⟩

theorem inner_map (s : σ) (name : ν) (prev : List (ν × Bag σ)) (h : AllWF prev) :
    ∀ cur, Bag.WF cur →
      (inner (actOf desc) name prev cur).map (atS s)
        = innerZ desc name (prev.map (atS s)) (Bag.count cur s) := by
  induction prev with
  | nil => intro cur _; rfl
  | cons e t ih =>
    obtain ⟨p, b⟩ := e
    intro cur hcur
    obtain ⟨hb, ht⟩ := List.forall_mem_cons.mp h
    by_cases hd : desc p name = true
    · have h1 : actOf desc name p = true := hd
      simp only [inner, innerZ, h1, hd, if_true, List.map_cons, atS, ih ht _ (Bag.WF_sub cur b),
        Bag.count_sub cur b hcur hb, Bag.count_subtract b cur hcur]
    · have h1 : actOf desc name p = false := by simpa [actOf] using hd
      simp only [inner, innerZ, h1, hd, Bool.false_eq_true, if_false, List.map_cons, atS, ih ht _ hcur]

theorem outer_map (s : σ) (todo : List (ν × Bag σ)) :
    ∀ done : List (ν × Bag σ), AllWF done → AllWF todo →
      (outer (actOf desc) done todo).map (atS s) = outerZ desc (done.map (atS s)) (todo.map (atS s)) := by
  induction todo with
  | nil => intro done _ _; simp [outer, outerZ]
  | cons e t ih =>
    obtain ⟨n, b⟩ := e
    intro done hd ht
    obtain ⟨hb, ht'⟩ := List.forall_mem_cons.mp ht
    rw [outer, ih _ (List.forall_mem_cons.mpr ⟨hb, AllWF_inner _ n done hd b⟩) ht', List.map_cons,
      inner_map desc s n done hd b hb]
    rfl

theorem names_outer (act : ν → ν → Bool) (todo : List (ν × Bag σ)) :
    ∀ done : List (ν × Bag σ),
      (outer act done todo).map Prod.fst = (done.map Prod.fst).reverse ++ todo.map Prod.fst := by
  induction todo with
  | nil => intro done; simp [outer]
  | cons e t ih =>
    obtain ⟨n, b⟩ := e
    intro done
    simp only [outer]
    rw [ih]
    simp [names_inner]

theorem AllWF_outer (act : ν → ν → Bool) (todo : List (ν × Bag σ)) :
    ∀ done : List (ν × Bag σ), AllWF done → AllWF todo → AllWF (outer act done todo) := by
  induction todo with
  | nil => intro done hd _ e he; simp only [outer, List.mem_reverse] at he; exact hd e he
  | cons e t ih =>
    obtain ⟨n, b⟩ := e
    intro done hd ht
    obtain ⟨hb, ht'⟩ := List.forall_mem_cons.mp ht
    exact ih _ (List.forall_mem_cons.mpr ⟨hb, AllWF_inner act n done hd b⟩) ht'

theorem outer_short (act : ν → ν → Bool) (T : List (ν × Bag σ)) (h : T.length < 2) : outer act [] T = T := by
  match T, h with
  | [], _ => rfl
  | [e], _ => rfl

theorem bagOf_isLookup : Assoc.IsLookup (bagOf (ν := ν) (σ := σ)) [] id := ⟨fun _ => rfl, fun _ _ _ _ => rfl⟩

theorem bagOf_of_mem {l : List (ν × Bag σ)} (hl : (l.map Prod.fst).Nodup) {e : ν × Bag σ}
    (h : e ∈ l) : bagOf l e.1 = e.2 :=
  bagOf_isLookup.of_mem hl h

theorem mem_finalize {l : List (ν × Bag σ)} {e : ν × Bag σ} :
    e ∈ finalize l ↔ ∃ e₀ ∈ l, e = (e₀.1, Bag.keepPositive e₀.2) ∧ Bag.keepPositive e₀.2 ≠ [] := by
  simp only [finalize, List.mem_filterMap, List.isEmpty_iff]
  refine exists_congr fun e₀ => and_congr_right fun _ => ?_
  by_cases h : Bag.keepPositive e₀.2 = [] <;> simp [h, eq_comm]

theorem finalize_cons (m : ν) (c : Bag σ) (t : List (ν × Bag σ)) :
    finalize ((m, c) :: t)
      = if (Bag.keepPositive c).isEmpty = true then finalize t
        else (m, Bag.keepPositive c) :: finalize t := by
  by_cases h : Bag.keepPositive c = [] <;> simp [finalize, h]

theorem names_finalize_sublist (l : List (ν × Bag σ)) :
    List.Sublist ((finalize l).map Prod.fst) (l.map Prod.fst) := by
  induction l with
  | nil => exact List.Sublist.refl _
  | cons e t ih =>
    obtain ⟨m, c⟩ := e
    rw [finalize_cons]
    split
    · exact List.Sublist.cons _ ih
    · exact List.Sublist.cons_cons _ ih

theorem bagOf_finalize {l : List (ν × Bag σ)} (hl : (l.map Prod.fst).Nodup) (n : ν) :
    bagOf (finalize l) n = Bag.keepPositive (bagOf l n) := by
  induction l with
  | nil => rfl
  | cons x t ih =>
    obtain ⟨m, c⟩ := x
    simp only [List.map_cons, List.nodup_cons] at hl
    rw [finalize_cons]
    by_cases hm : m = n
    · subst hm
      by_cases hk : Bag.keepPositive c = []
      · rw [hk, List.isEmpty_nil, if_pos rfl, ih hl.2, bagOf_isLookup.of_not_mem hl.1, bagOf, if_pos rfl, hk]; rfl
      · simp [bagOf, hk]
    · split <;> simp [bagOf, hm, ih hl.2]

theorem cnt_finalize {l : List (ν × Bag σ)} (hl : (l.map Prod.fst).Nodup) (hw : AllWF l) (n : ν)
    (s : σ) : cnt (finalize l) n s = if 0 < cnt l n s then cnt l n s else 0 := by
  unfold cnt
  rw [bagOf_finalize hl, Bag.count_keepPositive (bagOf_isLookup.ind (P := Bag.WF) Bag.WF_nil hw n)]

theorem nearB_atS (T : List (ν × Bag σ)) (n : ν) (s : σ) (d : ν) :
    nearB desc T n s d = nearZ desc (T.map (atS s)) n d := by
  unfold nearB nearZ
  simp only [getZ_atS, List.all_map]
  rfl

theorem nearestTotal_atS (T : List (ν × Bag σ)) (n : ν) (s : σ) :
    nearestTotal desc T n s = nearSumZ desc (T.map (atS s)) n (T.map (atS s)) := by
  unfold nearestTotal nearSumZ
  rw [List.filter_map, List.map_map]
  congr 2
  apply List.filter_congr
  intro e _
  simp [nearB_atS, atS]

section Clauses
variable {desc}
variable (T : List (ν × Bag σ)) (hnd : (T.map Prod.fst).Nodup) (hgood : GoodBags T)

theorem allWF_of_good {T : List (ν × Bag σ)} (hgood : GoodBags T) : AllWF T := fun e he => (hgood e he).1

theorem nonneg_atS {T : List (ν × Bag σ)} (hgood : GoodBags T) (s : σ) : ∀ e ∈ T.map (atS s), 0 ≤ e.2 := by
  intro e he
  obtain ⟨e₀, h₀, rfl⟩ := List.mem_map.mp he
  exact Bag.count_nonneg (fun x hx => Int.le_of_lt ((hgood e₀ h₀).2 x hx)) s

theorem cnt_nonneg {T : List (ν × Bag σ)} (hgood : GoodBags T) (n : ν) (s : σ) : 0 ≤ cnt T n s := by
  rw [← getZ_atS]; exact getZ_nonneg (nonneg_atS hgood s) n

/-- At one span, the two nested loops are the integer program. -/
theorem outer_atS {T : List (ν × Bag σ)} (hgood : GoodBags T) (s : σ) :
    (outer (actOf desc) [] T).map (atS s) = outerZ desc [] (T.map (atS s)) :=
  outer_map desc s T [] (by intro e he; cases he) (allWF_of_good hgood)

include hnd hgood

theorem cnt_outer_le (s : σ) (e : ν × Bag σ) (he : e ∈ outer (actOf desc) [] T) :
    Bag.count e.2 s ≤ cnt T e.1 s := by
  have := Z_no_invention (desc := desc) (T.map (atS s)) (by rw [names_atS]; exact hnd)
    (nonneg_atS hgood s) e.1 (Bag.count e.2 s) (outer_atS hgood s ▸ List.mem_map_of_mem he)
  rwa [getZ_atS] at this

theorem mem_outerZ_of_name (n : ν) (hn : n ∈ T.map Prod.fst) (s : σ) :
    (n, cnt (outer (actOf desc) [] T) n s) ∈ outerZ desc [] (T.map (atS s)) := by
  rw [← outer_atS hgood, ← getZ_atS]
  apply mem_of_mem_names
  rw [names_atS, names_outer]; simpa using hn

/-- The final filter at one span and one name: the positive part of what the loops leave (the short
lists, returned as they are, have non-negative counts). -/
theorem cnt_dedup (n : ν) (s : σ) :
    cnt (dedup (actOf desc) T) n s
      = if 0 < cnt (outer (actOf desc) [] T) n s then cnt (outer (actOf desc) [] T) n s else 0 := by
  unfold dedup
  split
  · rename_i hlen
    have := cnt_nonneg hgood n s
    rw [outer_short _ T hlen]
    split <;> omega
  · exact cnt_finalize (by rw [names_outer]; simpa using hnd)
      (AllWF_outer _ T [] (by intro e he; cases he) (allWF_of_good hgood)) n s

theorem noInvention_dedup : NoInvention T (dedup (actOf desc) T) := by
  unfold dedup
  split
  · intro e he
    refine ⟨List.mem_map_of_mem he, fun x hx => ⟨(hgood e he).2 x hx, ?_⟩⟩
    unfold cnt
    rw [bagOf_of_mem hnd he, Bag.count_of_mem (hgood e he).1 hx]
    exact Int.le_refl _
  · intro e he
    obtain ⟨e₀, h₀, rfl, _⟩ := mem_finalize.mp he
    have hn₀ : e₀.1 ∈ T.map Prod.fst := by
      have := List.mem_map_of_mem (f := Prod.fst) h₀
      rwa [names_outer] at this
    refine ⟨by simpa using hn₀, fun x hx => ?_⟩
    obtain ⟨hx₀, hpos⟩ := Bag.mem_keepPositive.mp hx
    refine ⟨hpos, ?_⟩
    have hwf₀ : Bag.WF e₀.2 :=
      AllWF_outer _ T [] (by intro e he; cases he) (allWF_of_good hgood) e₀ h₀
    have := cnt_outer_le T hnd hgood x.1 e₀ h₀
    rwa [Bag.count_of_mem hwf₀ hx₀] at this

variable (hR : AncRel desc) (hord : (T.map Prod.fst).Pairwise fun x y => desc y x = false)
include hR hord

theorem unsharedKept_dedup : UnsharedKept desc T (dedup (actOf desc) T) := by
  intro n hn s hU
  have := Z_unshared_kept hR (T.map (atS s)) (by rw [names_atS]; exact hnd)
    (by rw [names_atS]; exact hord) (nonneg_atS hgood s) n
    (fun d hd hnd' => by rw [names_atS] at hd; rw [getZ_atS]; exact hU d hd hnd') _
    (mem_outerZ_of_name T hnd hgood n hn s)
  rw [getZ_atS] at this
  rw [cnt_dedup T hnd hgood, this]
  have := cnt_nonneg hgood n s
  split <;> omega

theorem coveredLost_dedup : CoveredLost desc T (dedup (actOf desc) T) := by
  intro n hn s hpos hcov
  have hle := Z_covered_lost hR (T.map (atS s)) (by rw [names_atS]; exact hnd)
    (by rw [names_atS]; exact hord) (nonneg_atS hgood s) n
    (by rw [getZ_atS, ← nearestTotal_atS]; exact hcov) _ (mem_outerZ_of_name T hnd hgood n hn s)
  rw [cnt_dedup T hnd hgood]
  split <;> omega

end Clauses

section Bridge
variable {ε : Type} (actE : ν → ν → Except ε Bool) (act : ν → ν → Bool)

theorem innerE_eq (name : ν) (prev : List (ν × Bag σ))
    (h : ∀ p ∈ prev.map Prod.fst, actE name p = .ok (act name p)) :
    ∀ cur, innerE actE name prev cur = .ok (inner act name prev cur) := by
  induction prev with
  | nil => intro cur; rfl
  | cons e t ih =>
    obtain ⟨p, b⟩ := e
    intro cur
    have hp := h p (by simp)
    have ih' := ih fun q hq => h q (by simp [hq])
    simp only [innerE, inner, hp]
    cases act name p <;> simp [ih']

theorem outerE_eq (todo : List (ν × Bag σ)) :
    ∀ done : List (ν × Bag σ),
      (∀ p ∈ done.map Prod.fst, ∀ n ∈ todo.map Prod.fst, actE n p = .ok (act n p)) →
      (todo.map Prod.fst).Pairwise (fun p n => actE n p = .ok (act n p)) →
      outerE actE done todo = .ok (outer act done todo) := by
  induction todo with
  | nil => intro done _ _; rfl
  | cons e t ih =>
    obtain ⟨n, b⟩ := e
    intro done hd hpw
    simp only [List.map_cons, List.pairwise_cons] at hpw
    simp only [outerE, outer]
    rw [innerE_eq actE act n done (fun p hp => hd p hp n (by simp))]
    simp only
    apply ih
    · intro p hp m hm
      simp only [List.map_cons, List.mem_cons, names_inner] at hp
      rcases hp with hp | hp
      · subst hp; exact hpw.1 m hm
      · exact hd p hp m (by simp [hm])
    · exact hpw.2

theorem dedupE_eq (T : List (ν × Bag σ))
    (hpw : (T.map Prod.fst).Pairwise (fun p n => actE n p = .ok (act n p))) :
    dedupE actE T = .ok (dedup act T) := by
  unfold dedupE dedup
  split
  · rfl
  · rw [outerE_eq actE act T [] (by intro p hp; cases hp) hpw]

end Bridge

end Paroxy.DedupLift
