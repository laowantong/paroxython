/-
Every direct internal import names a collected path (`resolved_all`, by
construction since fix 0c1b93c), and the string reasoning on the relabelling
`import:M…` ↦ `import_internally:M'…` (M' = M with `/` for `.`) of fix 77a08ea (`relabel_target`: the
target a relabelled label names is the very path whose membership was tested).
-/
import Paroxy.Proofs.MakeDb
namespace Paroxy.DB

/-- "import_internally:" -/
def sInternalPrefix : Name := sImport ++ sInternally ++ [cColon]

theorem dropPrefix?_eq {p s r : Name} (h : dropPrefix? p s = some r) : s = p ++ r := by
  induction p generalizing s with
  | nil => simp only [dropPrefix?, Option.some.injEq] at h; simp [h]
  | cons a t ih =>
    cases s with
    | nil => simp [dropPrefix?] at h
    | cons c cs =>
      unfold dropPrefix? at h
      split at h
      · rename_i hac
        rw [hac, ih h]; rfl
      · cases h

abbrev rep (s : Name) : Name := replaceChar cDot cSlash s

theorem rep_cons (c : Nat) (cs : Name) : rep (c :: cs) = (if c = cDot then cSlash else c) :: rep cs := rfl

theorem rep_append (a b : Name) : rep (a ++ b) = rep a ++ rep b := by simp [rep, replaceChar]

theorem rep_cons_colon (b : Name) : rep (cColon :: b) = cColon :: rep b := by
  simp [rep, replaceChar, cColon, cDot]

theorem rep_sInternally : rep sInternally = sInternally := by decide

theorem colon_mem_rep {s : Name} : cColon ∈ rep s ↔ cColon ∈ s := by
  induction s with
  | nil => simp [rep, replaceChar]
  | cons c cs ih =>
    rw [rep_cons, List.mem_cons, List.mem_cons, ih]
    by_cases hc : c = cDot
    · simp [hc, cColon, cSlash, cDot]
    · simp [hc]

/-- The replacement never produces a character of a slash-free target out of another one. -/
theorem rep_eq_of_noSlash {s t : Name} (ht : cSlash ∉ t) (h : rep s = t) : s = t := by
  induction s generalizing t with
  | nil => simpa [rep, replaceChar] using h
  | cons c cs ih =>
    cases t with
    | nil => simp [rep, replaceChar] at h
    | cons d ds =>
      rw [rep_cons, List.cons.injEq] at h
      have hd : d ≠ cSlash := fun e => ht (e ▸ List.mem_cons_self)
      have hds : cSlash ∉ ds := fun hh => ht (List.mem_cons_of_mem _ hh)
      by_cases hc : c = cDot
      · rw [if_pos hc] at h; exact absurd h.1.symm hd
      · rw [if_neg hc] at h
        rw [h.1, ih hds h.2]

theorem takeNoColon_rep (s : Name) : takeNoColon (rep s) = rep (takeNoColon s) := by
  induction s with
  | nil => rfl
  | cons c cs ih =>
    rw [rep_cons, takeNoColon, takeNoColon]
    by_cases hcol : c = cColon
    · subst hcol; rfl
    · have : ¬ (if c = cDot then cSlash else c) = cColon := by
        split
        · decide
        · exact hcol
      rw [if_neg this, if_neg hcol, rep_cons, ih]

/-- Either there is no colon and nothing changes, or the name splits at its first colon, before
which `_internally` is inserted. -/
theorem tweak_split (n : Name) :
    (cColon ∉ n ∧ tweakFirstColon n = n) ∨
    ∃ pre rest, cColon ∉ pre ∧ n = pre ++ cColon :: rest ∧
      tweakFirstColon n = pre ++ sInternally ++ cColon :: rest := by
  induction n with
  | nil => exact .inl ⟨List.not_mem_nil, rfl⟩
  | cons c cs ih =>
    by_cases hc : c = cColon
    · exact .inr ⟨[], cs, List.not_mem_nil, by rw [hc]; rfl, (if_pos hc : tweakFirstColon (c :: cs) = _)⟩
    · have hmem : ∀ {l}, cColon ∉ l → cColon ∉ c :: l := fun h h' =>
        (List.mem_cons.mp h').elim (fun e => hc e.symm) h
      rw [show tweakFirstColon (c :: cs) = c :: tweakFirstColon cs from if_neg hc]
      rcases ih with ⟨h1, h2⟩ | ⟨pre, rest, h1, h2, h3⟩
      · exact .inl ⟨hmem h1, by rw [h2]⟩
      · exact .inr ⟨c :: pre, rest, hmem h1, by rw [h2]; rfl, by rw [h3]; rfl⟩

theorem split_unique {c : Nat} {a a' b b' : Name} (ha : c ∉ a) (ha' : c ∉ a')
    (h : a ++ c :: b = a' ++ c :: b') : a = a' ∧ b = b' := by
  -- `a` is what comes before the first `c`
  have tw : ∀ {a : Name} (b : Name), c ∉ a → (a ++ c :: b).takeWhile (· != c) = a := fun b ha => by
    rw [List.takeWhile_append_of_pos (fun x hx => by simpa using fun e : x = c => ha (e ▸ hx)),
      List.takeWhile_cons_of_neg (by simp), List.append_nil]
  have e : a = a' := by rw [← tw b ha, h, tw b' ha']
  subst e
  exact ⟨rfl, (List.cons.inj (List.append_cancel_left h)).2⟩

theorem searchImport?_import (rest : Name) :
    searchImport? (sImport ++ cColon :: rest) = some (takeNoColon rest) := by
  simp [searchImport?, importAt?, dropPrefix?, sImport, sModule, cColon]

theorem dropPrefix?_append (p r : Name) : dropPrefix? p (p ++ r) = some r := by
  induction p with
  | nil => rfl
  | cons a t ih => simp [dropPrefix?, ih]

/-- A name has an importation target exactly when it is `import_internally:` and a rest whose part before the
next colon is not empty: the target is that part with `.py`. -/
theorem internalTarget?_eq_some {m q : Name} :
    internalTarget? m = some q ↔
      ∃ r, m = sInternalPrefix ++ r ∧ takeNoColon r ≠ [] ∧ q = takeNoColon r ++ sPy := by
  unfold internalTarget?
  constructor
  · intro h
    cases hd : dropPrefix? (sImport ++ sInternally ++ [cColon]) m with
    | none => rw [hd] at h; cases h
    | some r =>
      rw [hd] at h
      simp only at h
      refine ⟨r, dropPrefix?_eq hd, ?_⟩
      cases hg : takeNoColon r with
      | nil => rw [hg] at h; cases h
      | cons x xs => rw [hg] at h; exact ⟨nofun, (Option.some.inj h).symm⟩
  · rintro ⟨r, rfl, hne, rfl⟩
    rw [sInternalPrefix, dropPrefix?_append]
    dsimp only
    cases hg : takeNoColon r with
    | nil => exact absurd hg hne
    | cons x xs => rfl

/-- **The relabelled target is a tested path.** If a label, after the relabelling loop, names the
importation target `q`, and was not an `import_internally:` label to begin with, then `q` is the very
string whose membership in `internal` was tested, and it is not the bare `".py"`. -/
theorem relabel_target {internal : List Name} {n q : Name}
    (hraw : dropPrefix? sInternalPrefix n = none)
    (h : internalTarget? (relabelName internal n) = some q) :
    q ∈ internal ∧ q ≠ sPy ∧ ∃ rest, n = sImport ++ cColon :: rest ∧ takeNoColon rest ≠ [] ∧
      q = rep (takeNoColon rest) ++ sPy := by
  have hnone : ¬ internalTarget? n = some q := fun h' => by
    obtain ⟨r, rfl, _⟩ := internalTarget?_eq_some.mp h'
    rw [dropPrefix?_append] at hraw; cases hraw
  unfold relabelName at h
  cases hs : searchImport? n with
  | none => rw [hs] at h; exact absurd h hnone
  | some g =>
    rw [hs] at h
    simp only at h
    by_cases hm : rep g ++ sPy ∈ internal
    · rw [if_pos hm] at h
      obtain ⟨rest', hr, hne, rfl⟩ := internalTarget?_eq_some.mp h
      change rep (tweakFirstColon n) = _ at hr
      rcases tweak_split n with ⟨hnc, ht⟩ | ⟨pre, rest, hpre, hn, ht⟩
      · -- no colon in n, hence none in the relabelled name: impossible
        rw [ht] at hr
        have : cColon ∈ rep n := by rw [hr]; simp [sInternalPrefix]
        exact absurd (colon_mem_rep.mp this) hnc
      · rw [ht, rep_append, rep_append, rep_cons_colon, rep_sInternally] at hr
        have hsplit : (rep pre ++ sInternally) ++ cColon :: rep rest =
            (sImport ++ sInternally) ++ cColon :: rest' := by
          simpa [sInternalPrefix, List.append_assoc] using hr
        have hc1 : cColon ∉ rep pre ++ sInternally := by
          intro hh
          rcases List.mem_append.mp hh with e | e
          · exact hpre (colon_mem_rep.mp e)
          · revert e; decide
        obtain ⟨e1, e2⟩ := split_unique hc1 (by decide) hsplit
        have hpre' : pre = sImport := rep_eq_of_noSlash (by decide) (List.append_cancel_right e1)
        rw [hpre'] at hn
        rw [hn, searchImport?_import] at hs
        cases hs
        rw [← e2, takeNoColon_rep] at hne ⊢
        exact ⟨hm, fun e => hne (List.append_left_eq_self.mp e), rest, hn, fun he => hne (by rw [he]; rfl), rfl⟩
    · rw [if_neg hm] at h; exact absurd h hnone

/-- **Every direct internal import is resolved** — by construction since fix 0c1b93c:
`compute_direct_importations` keeps a target only when it is a collected program. So
`compute_and_collect_exportations` can no longer raise `KeyError`, whatever the labels (hints included). -/
theorem resolved_all {progs : List Prog} {p q : Name} (h : Imports progs p q) : q ∈ pathsOf progs :=
  let ⟨_, _, _, hd⟩ := imports_elim h
  (mem_directOf.mp hd).1

/-- The relabelling looks at the collected paths only to test the path a label names. -/
theorem relabelName_congr {I I' : List Name} {n : Name}
    (h : ∀ m, searchImport? n = some m → (rep m ++ sPy ∈ I ↔ rep m ++ sPy ∈ I')) :
    relabelName I n = relabelName I' n := by
  unfold relabelName
  cases hs : searchImport? n with
  | none => rfl
  | some m => simp only [h m hs]

theorem labelsOf_congr {I I' : List Name} {p : Prog}
    (h : ∀ l ∈ p.labels, ∀ m, searchImport? l.name = some m → (rep m ++ sPy ∈ I ↔ rep m ++ sPy ∈ I')) :
    labelsOf I p = labelsOf I' p :=
  List.map_congr_left fun l hl => by rw [relabelName_congr (h l hl)]

/-! ## Raw labels: none of the `import_internally:` form, and what an `import:` label of an internal module becomes -/

/-- No raw label already has the `import_internally:` form (spec.md has no such feature; only a hint
comment can introduce one). -/
def NoRawInternal (progs : List Prog) : Prop :=
  ∀ p ∈ progs, ∀ l ∈ p.labels, dropPrefix? sInternalPrefix l.name = none

instance (progs : List Prog) : Decidable (NoRawInternal progs) := by
  unfold NoRawInternal; infer_instance

theorem tweak_import (rest : Name) :
    tweakFirstColon (sImport ++ cColon :: rest) = sImport ++ sInternally ++ cColon :: rest := by
  simp [tweakFirstColon, sImport, cColon]

/-- An `import:M` / `import:M:name` label whose module, as a path, is internal is relabelled into a label
naming exactly that path. -/
theorem internalTarget_of_import {internal : List Name} {rest : Name}
    (hne : takeNoColon rest ≠ []) (hin : rep (takeNoColon rest) ++ sPy ∈ internal) :
    internalTarget? (relabelName internal (sImport ++ cColon :: rest)) =
      some (rep (takeNoColon rest) ++ sPy) := by
  unfold relabelName
  rw [searchImport?_import]
  simp only
  rw [if_pos hin, tweak_import, ← takeNoColon_rep]
  refine internalTarget?_eq_some.mpr ⟨rep rest, ?_, fun h => hne ?_, rfl⟩
  · change rep (sImport ++ sInternally ++ cColon :: rest) = _
    rw [rep_append, rep_append, rep_cons_colon, rep_sInternally, show rep sImport = sImport by decide]
    simp [sInternalPrefix]
  · rw [takeNoColon_rep] at h
    exact List.map_eq_nil_iff.mp h

end Paroxy.DB
