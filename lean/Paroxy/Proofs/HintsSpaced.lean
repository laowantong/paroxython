/-
After the normalisation of the markers (`Cleanup.normalize_paroxython_comments`, first step of
`get_program`) a marker in sight from the beginning of a line is always followed by a space, or by
the end of the text (the final trimming eats that space on the last line, F46). This is what makes
`remove_hints` (`[\s\x1c-\x1f]*# paroxython:.*`, no space required since F46) and the isolated-hint
regex (`# paroxython:(?: (.*))?$`) agree on which lines are hint comments alone: `prepare_spaced`.
-/
import Paroxy.Proofs.HintsAllTexts
namespace Paroxy.Hints

variable {O : CharOracle}

theorem normGo_head (t : Str) (st : NState) (pend : Str) (hst : st = .tail → pend = []) :
    (∃ r, (normGo O) st pend t = m14 ++ r) ∨ (∃ r, (normGo O) st pend t = pend ++ r) := by
  fun_induction normGo O st pend t with
  | case1 st pend => exact Or.inr ⟨[], (List.append_nil _).symm⟩
  | case2 st pend c t s hn ih =>
    rcases ih (fun e => absurd e (nstep_cont_ne_tail hn)) with ⟨r, h⟩ | ⟨r, h⟩
    · exact Or.inl ⟨r, h⟩
    · exact Or.inr ⟨c :: r, by rw [h, List.append_assoc]; rfl⟩
  | case3 st pend c t hn ih => exact Or.inr ⟨_, rfl⟩
  | case4 st pend c t hn ih => exact Or.inr ⟨_, rfl⟩
  | case5 st pend c t hn ih => exact Or.inl ⟨_, rfl⟩
  | case6 st pend c t hn ih =>
    cases hst (nstep_drop hn)
    exact Or.inr ⟨_, rfl⟩

theorem normGo_step (st : NState) (hst : st ≠ .tail) (pend : Str) (c : Char) (t : Str) :
    (∃ r, (normGo O) st pend (c :: t) = m14 ++ r) ∨ (∃ r, (normGo O) st pend (c :: t) = pend ++ c :: r) := by
  simp only [normGo]
  cases hn : (nstep O) st c <;> simp only
  · rename_i s
    rcases normGo_head (O := O) t s (pend ++ [c]) (fun e => absurd e (nstep_cont_ne_tail hn)) with ⟨r, h⟩ | ⟨r, h⟩
    · left; exact ⟨r, h⟩
    · right; exact ⟨r, by rw [h]; simp⟩
  · right; exact ⟨_, rfl⟩
  · right
    have hc := nstep_hash hn
    subst hc
    rcases normGo_head (O := O) t .hash ['#'] (fun e => by cases e) with ⟨r, h⟩ | ⟨r, h⟩
    · exact ⟨m14.tail ++ r, by rw [h]; simp [m14, m13]⟩
    · exact ⟨r, by rw [h]; simp⟩
  · left; exact ⟨_, rfl⟩
  · exact absurd (nstep_drop hn) hst

/-- The state of the scan after the first `k` characters of `# paroxython:`. -/
def stAt : Nat → NState
  | 0 => .idle
  | 1 => .hash
  | 2 => .hash
  | k + 3 => .letters (k + 1)

theorem stAt_step (k : Nat) (h1 : 1 ≤ k) (h2 : k ≤ 11) (c : Char) (hc : m13[k]? = some c) :
    (nstep O) (stAt k) c = .cont (stAt (k + 1)) ∧ m13.take k ++ [c] = m13.take (k + 1) := by
  rcases k with _ | _ | _ | _ | _ | _ | _ | _ | _ | _ | _ | _ | k <;>
    first | omega | (cases Option.some.inj hc; exact ⟨rfl, rfl⟩)

/-- **The scan never leaves a marker without its space**: from the state reached after `k` characters
of the marker, an output that begins with `# paroxython:` begins with `# paroxython: `. -/
theorem normGo_m13 (t : Str) : ∀ k, 1 ≤ k → k ≤ 12 →
    m13.isPrefixOf ((normGo O) (stAt k) (m13.take k) t) = true →
    m14.isPrefixOf ((normGo O) (stAt k) (m13.take k) t) = true := by
  induction t with
  | nil =>
    intro k _ hk h
    exfalso
    simp only [normGo, List.isPrefixOf_iff_prefix] at h
    have := h.length_le
    simp [m13] at this
    omega
  | cons c t ih =>
    intro k hk1 hk h
    by_cases hc : m13[k]? = some c
    · by_cases h12 : k = 12
      · subst h12
        have : c = ':' := by simpa [m13] using hc.symm
        subst this
        have hs : (nstep O) (stAt 12) ':' = .accept := by rfl
        simp only [normGo, hs]
        simp [List.isPrefixOf_iff_prefix]
      · have hs := stAt_step (O := O) k hk1 (by omega) c hc
        have hgo : (normGo O) (stAt k) (m13.take k) (c :: t) = (normGo O) (stAt (k + 1)) (m13.take (k + 1)) t := by
          simp only [normGo, hs.1, hs.2]
        rw [hgo] at h ⊢
        exact ih (k + 1) (by omega) (by omega) h
    · rcases normGo_step (O := O) (stAt k) (by unfold stAt; split <;> simp) (m13.take k) c t with ⟨r, hr⟩ | ⟨r, hr⟩
      · rw [hr]; simp [List.isPrefixOf_iff_prefix]
      · exfalso
        -- the character after the `k` of the marker is then the marker's own
        rw [hr, List.isPrefixOf_iff_prefix] at h
        obtain ⟨s, hs⟩ := h
        have hk13 : k < m13.length := Nat.lt_succ_of_le hk
        have hlen : (m13.take k).length = k := List.length_take_of_le (Nat.le_of_lt hk13)
        have h1 : (m13 ++ s)[k]? = (m13.take k ++ c :: r)[k]? := by rw [hs]
        rw [List.getElem?_append_left hk13, List.getElem?_append_right (Nat.le_of_eq hlen), hlen, Nat.sub_self,
          List.getElem?_cons_zero] at h1
        exact hc h1

/-- What a line looks like, white space skipped, once its markers are normalised: a marker in sight
comes with its space. -/
def Spaced14 (O : CharOracle) (l : Str) : Prop :=
  m13.isPrefixOf (l.dropWhile (isSpacePy O)) = true → m14.isPrefixOf (l.dropWhile (isSpacePy O)) = true

theorem normGo_idle_spaced (l : Str) : Spaced14 O ((normGo O) .idle [] l) := by
  induction l with
  | nil => intro h; simp [normGo, m13] at h
  | cons c t ih =>
    by_cases hc : c = '#'
    · subst hc
      have hs : (nstep O) .idle '#' = .hash := by rfl
      have hgo : (normGo O) .idle [] ('#' :: t) = (normGo O) (stAt 1) (m13.take 1) t := by
        simp only [normGo, hs]; rfl
      have hd : ((normGo O) (stAt 1) (m13.take 1) t).dropWhile (isSpacePy O) = (normGo O) (stAt 1) (m13.take 1) t := by
        rcases normGo_head (O := O) t (stAt 1) (m13.take 1) (fun e => by cases e) with ⟨r, hr⟩ | ⟨r, hr⟩
        · rw [hr]; simp only [m14, m13, List.cons_append]; rw [List.dropWhile_cons_of_neg (ne_true_of_eq_false rfl)]
        · rw [hr]; simp only [m13, List.take, List.cons_append]; rw [List.dropWhile_cons_of_neg (ne_true_of_eq_false rfl)]
      unfold Spaced14
      rw [hgo, hd]
      exact normGo_m13 t 1 (by omega) (by omega)
    · have hs : (nstep O) .idle c = .reset := by simp [nstep, hc]
      have hgo : (normGo O) .idle [] (c :: t) = c :: (normGo O) .idle [] t := by
        simp only [normGo, hs]; rfl
      unfold Spaced14
      rw [hgo]
      by_cases hw : (isSpacePy O) c = true
      · rw [List.dropWhile_cons_of_pos hw]; exact ih
      · rw [List.dropWhile_cons_of_neg hw]
        intro h
        simp [m13, List.isPrefixOf_cons_cons] at h
        exact absurd h.1.symm hc

/-- A line that lacks the end of a well-spaced line is well spaced, the marker being possibly left
without its space at the very end. -/
theorem spacedLine_of_prefix {l' l : Str} (hp : l' <+: l) (h : Spaced14 O l) : SpacedLine O l' := by
  obtain ⟨w, rfl⟩ := hp
  intro hah hnone
  unfold hintAhead at hah
  obtain ⟨t, ht⟩ := List.isPrefixOf_iff_prefix.mp hah
  have hd : (l' ++ w).dropWhile (isSpacePy O) = m13 ++ (t ++ w) := by
    rw [List.dropWhile_append, ← ht]; simp [m13]
  have h14 := h (by rw [hd]; exact List.isPrefixOf_iff_prefix.mpr (List.prefix_append _ _))
  rw [hd, List.isPrefixOf_iff_prefix, m14, List.prefix_append_right_inj] at h14
  simp only [isolatedRest, ← ht] at hnone
  cases t with
  | nil => simp [m13] at hnone
  | cons x r =>
    have hx : ' ' = x := by simpa using h14
    simp [m13, ← hx] at hnone

theorem mem_splitNL_append_nl (A R : Str) (l : Str) (h : l ∈ splitNL R) : l ∈ splitNL (A ++ '\n' :: R) := by
  have : l ∈ (splitNL' (A ++ '\n' :: R)).2 := by
    induction A with
    | nil => simp only [List.nil_append, splitNL', if_true]; exact h
    | cons a A ih =>
      simp only [List.cons_append, splitNL']
      split
      · exact List.mem_cons_of_mem _ ih
      · exact ih
  exact List.mem_cons_of_mem _ this

theorem mem_splitNL_cons_nl (R : Str) (l : Str) (h : l ∈ splitNL R) : l ∈ splitNL ('\n' :: R) :=
  mem_splitNL_append_nl [] R l h

theorem splitNL'_append_prefix (T B : Str) :
    (splitNL' T).1 <+: (splitNL' (T ++ B)).1 ∧
      ∀ l' ∈ (splitNL' T).2, ∃ l ∈ (splitNL' (T ++ B)).2, l' <+: l := by
  induction T with
  | nil => exact ⟨List.nil_prefix, fun l' hl' => absurd hl' List.not_mem_nil⟩
  | cons x T ih =>
    by_cases hx : x = '\n'
    · subst hx
      simp only [splitNL', if_true, List.cons_append]
      refine ⟨List.prefix_rfl, fun l' hl' => ?_⟩
      rcases List.mem_cons.mp hl' with rfl | hl'
      · exact ⟨_, List.mem_cons_self, ih.1⟩
      · obtain ⟨l, hl, hp⟩ := ih.2 l' hl'
        exact ⟨l, List.mem_cons_of_mem _ hl, hp⟩
    · simp only [splitNL', hx, if_false, List.cons_append]
      exact ⟨List.cons_prefix_cons.mpr ⟨rfl, ih.1⟩, ih.2⟩

theorem splitNL_append_prefix (T B : Str) : ∀ l' ∈ splitNL T, ∃ l ∈ splitNL (T ++ B), l' <+: l := by
  intro l' hl'
  rcases List.mem_cons.mp hl' with rfl | hl'
  · exact ⟨_, List.mem_cons_self, (splitNL'_append_prefix T B).1⟩
  · obtain ⟨l, hl, hp⟩ := (splitNL'_append_prefix T B).2 l' hl'
    exact ⟨l, List.mem_cons_of_mem _ hl, hp⟩

theorem lines_of_trimEnds (s : Str) : ∀ l' ∈ splitNL ((trimEnds O) s), ∃ l ∈ splitNL s, l' <+: l := by
  obtain ⟨A, B, hs, hA⟩ := trimEnds_decomp (O := O) s
  intro l' hl'
  obtain ⟨l, hl, hp⟩ := splitNL_append_prefix _ B l' hl'
  refine ⟨l, ?_, hp⟩
  rcases hA with rfl | ⟨A', rfl⟩
  · rw [hs]; exact hl
  · rw [hs, List.append_assoc]; exact mem_splitNL_append_nl A' _ l hl

theorem normLine_noNL (l : Str) (h : '\n' ∉ l) : '\n' ∉ (normLine O) l := by
  intro hm
  rcases mem_normGo (O := O) l .idle [] '\n' hm with h1 | h1 | h1
  · cases h1
  · exact h h1
  · revert h1; decide

/-- **The prepared text is well spaced**: on every line of the text `get_program` numbers the hints
on, a marker in sight from the beginning of the line is followed by a space or ends the line — the
line is then a hint alone on its line for `centrifugate_hints`, so `remove_hints` never deletes a
line that `centrifugate_hints` kept. -/
theorem prepare_spaced (src : Str) : ∀ l ∈ splitNL ((prepare O) src), SpacedLine O l := by
  intro l' hl'
  unfold prepare at hl'
  obtain ⟨l, hl, hp⟩ := lines_of_trimEnds (O := O) _ l' hl'
  rw [splitNL_joinNL _ (by simp [splitNL])
    (List.forall_mem_map.mpr fun l0 h0 => normLine_noNL l0 (splitNL_noNL src l0 h0))] at hl
  obtain ⟨l0, _, rfl⟩ := List.mem_map.mp hl
  exact spacedLine_of_prefix hp (normGo_idle_spaced l0)

end Paroxy.Hints
