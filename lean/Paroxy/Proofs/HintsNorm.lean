/-
Helper lemmas for C12: the first step of the repaired `get_program` — line-by-line normalisation
of the marker (a deterministic scan) — on the text of a decorated program whose markers are
spelled freely. (The second step, trimming the blank ends, is in HintsTrim.) On any text the scan writes
only characters it read or the normalised marker (`mem_normGo`).
-/
import Paroxy.Proofs.HintsChars
namespace Paroxy.Hints

variable {O : CharOracle}

theorem ite_elim {α : Type} {Q : α → Prop} {p : Prop} [Decidable p] {a b : α} (ha : p → Q a) (hb : ¬ p → Q b) :
    Q (if p then a else b) := by
  split
  · exact ha ‹_›
  · exact hb ‹_›

/-- What an action of the scan tells about the state it was taken in and the character read. -/
def NAct.Tells (st : NState) (c : Char) : NAct → Prop
  | .hash => c = '#'
  | .accept => c = ':'
  | .cont s => s ≠ .tail
  | .drop => st = .tail
  | .reset => True

theorem nstep_tells (st : NState) (c : Char) : ((nstep O) st c).Tells st c := by
  unfold nstep
  by_cases hc : c = '#'
  · rw [if_pos hc]; exact hc
  · rw [if_neg hc]
    -- every branch of `nstep` ends in a constructor for which the claim is immediate
    cases st <;> dsimp only <;> (repeat' (apply ite_elim <;> intro _)) <;>
      first | trivial | assumption | exact NState.noConfusion

theorem nstep_cont_ne_tail {st s : NState} {c : Char} (h : (nstep O) st c = .cont s) : s ≠ .tail := by
  have := nstep_tells (O := O) st c
  rwa [h] at this

theorem nstep_drop {st : NState} {c : Char} (h : (nstep O) st c = .drop) : st = .tail := by
  have := nstep_tells (O := O) st c
  rwa [h] at this

theorem nstep_hash {st : NState} {c : Char} (h : (nstep O) st c = .hash) : c = '#' := by
  have := nstep_tells (O := O) st c
  rwa [h] at this

/-- Text in which no attempt succeeds is copied as it is, up to a point where what is pending is
flushed anyway: the end of the text, or a `#`. -/
theorem normGo_noaccept_flush (a : Str) {R : Str} (hR : R = [] ∨ ∃ R', R = '#' :: R') :
    ∀ (st : NState) (pend : Str), st ≠ .tail → (scanAccepts O) st a = false →
      (normGo O) st pend (a ++ R) = pend ++ a ++ (normGo O) .idle [] R := by
  induction a with
  | nil =>
    intro st pend _ _
    rcases hR with rfl | ⟨R', rfl⟩ <;> simp [normGo, nstep]
  | cons c t ih =>
    intro st pend hst hacc
    simp only [List.cons_append, normGo]
    simp only [scanAccepts] at hacc
    cases hn : (nstep O) st c with
    | cont s =>
      simp only [hn] at hacc ⊢
      rw [ih s _ (nstep_cont_ne_tail hn) hacc]; simp
    | reset =>
      simp only [hn] at hacc ⊢
      rw [ih .idle [] (by simp) hacc]; simp
    | hash =>
      simp only [hn] at hacc ⊢
      rw [ih .hash ['#'] (by simp) hacc, nstep_hash hn]; simp
    | accept => simp [hn] at hacc
    | drop => exact absurd (nstep_drop hn) hst

theorem normGo_noaccept (a : Str) (st : NState) (pend R : Str) (hst : st ≠ .tail)
    (hacc : (scanAccepts O) st a = false) :
    (normGo O) st pend (a ++ '#' :: R) = pend ++ a ++ (normGo O) .hash ['#'] R := by
  simpa [normGo, nstep] using normGo_noaccept_flush a (Or.inr ⟨R, rfl⟩) st pend hst hacc

theorem normGo_noaccept_end (a : Str) : ∀ (st : NState) (pend : Str), st ≠ .tail → (scanAccepts O) st a = false →
    (normGo O) st pend a = pend ++ a := by
  intro st pend hst hacc
  simpa [normGo] using normGo_noaccept_flush a (Or.inl rfl) st pend hst hacc

theorem scanAccepts_noColon (a : Str) (h : ':' ∉ a) : ∀ st, (scanAccepts O) st a = false := by
  induction a with
  | nil => intro st; rfl
  | cons c t ih =>
    intro st
    have ht := ih (fun e => h (List.mem_cons_of_mem _ e))
    rw [scanAccepts]
    have hc := nstep_tells (O := O) st c
    cases hn : (nstep O) st c <;> simp only <;>
      first | exact ht _ | (rw [hn] at hc; exact absurd (show c = ':' from hc) (fun e => h (by simp [e])))

theorem scanAccepts_append_noColon (a b : Str) (hb : ':' ∉ b) : ∀ st, (scanAccepts O) st a = false →
    (scanAccepts O) st (a ++ b) = false := by
  induction a with
  | nil => intro st _; exact scanAccepts_noColon b hb st
  | cons c t ih =>
    intro st h
    simp only [List.cons_append, scanAccepts] at h ⊢
    cases hn : (nstep O) st c <;> simp only [hn] at h ⊢ <;> first | exact ih _ h | cases h

theorem normGo_idle_noHash (X : Str) (h : '#' ∉ X) : (normGo O) .idle [] X = X := by
  induction X with
  | nil => rfl
  | cons c t ih =>
    have hc : c ≠ '#' := fun e => h (by simp [e])
    simp [normGo, nstep, hc, ih (fun e => h (by simp [e]))]

theorem normGo_tail_noHash (X : Str) (h : '#' ∉ X) : (normGo O) .tail [] X = X.dropWhile (isSpaceRe O) := by
  induction X with
  | nil => rfl
  | cons c t ih =>
    have hc : c ≠ '#' := fun e => h (by simp [e])
    have ht : '#' ∉ t := fun e => h (by simp [e])
    by_cases hs : (isSpaceRe O) c = true
    · simp [normGo, nstep, hc, hs, ih ht]
    · simp [normGo, nstep, hc, hs, normGo_idle_noHash t ht]

theorem pletters_table : ∀ p ∈ pletters,
    p.toLower = p ∧ p.toUpper.toLower = p ∧ p.isAlpha = true ∧ p.toUpper.isAlpha = true := by decide +kernel

theorem spellAt_eq (caps : Nat → Bool) (k : Nat) (hk : k < 10) :
    ∃ p ∈ pletters, pletters[k]? = some p ∧ spellAt caps k = if caps k then p.toUpper else p := by
  have hk' : k < pletters.length := hk
  refine ⟨pletters[k], List.getElem_mem _, List.getElem?_eq_getElem hk', ?_⟩
  simp only [spellAt, List.getElem?_eq_getElem hk']

theorem letterAt_spellAt (caps : Nat → Bool) (k : Nat) (hk : k < 10) : letterAt k (spellAt caps k) = true := by
  obtain ⟨p, hp, hpk, he⟩ := spellAt_eq caps k hk
  obtain ⟨h1, h2, -, -⟩ := pletters_table p hp
  simp only [letterAt, hpk, he]
  cases caps k <;> simp [h1, h2]

theorem spellAt_isAlpha (caps : Nat → Bool) (k : Nat) (hk : k < 10) : (spellAt caps k).isAlpha = true := by
  obtain ⟨p, hp, -, he⟩ := spellAt_eq caps k hk
  obtain ⟨-, -, h3, h4⟩ := pletters_table p hp
  rw [he]; cases caps k <;> simp [h3, h4]

theorem spellAt_ne_hash (caps : Nat → Bool) (k : Nat) (hk : k < 10) : spellAt caps k ≠ '#' := by
  intro e
  have := spellAt_isAlpha caps k hk
  rw [e] at this; cases this

theorem mem_normGo (s : Str) (st : NState) (pend : Str) (c : Char) (hc : c ∈ (normGo O) st pend s) :
    c ∈ pend ∨ c ∈ s ∨ c ∈ m14 := by
  fun_induction normGo O st pend s with
  | case1 st pend => exact Or.inl hc
  | case2 st pend x t s hn ih =>
    rcases ih hc with h | h | h
    · exact (List.mem_append.mp h).elim Or.inl fun h => Or.inr (Or.inl (List.mem_cons.mpr (Or.inl (List.mem_singleton.mp h))))
    · exact Or.inr (Or.inl (List.mem_cons_of_mem _ h))
    · exact Or.inr (Or.inr h)
  | case3 st pend x t hn ih =>
    rcases List.mem_append.mp hc with h | h
    · exact Or.inl h
    · rcases List.mem_cons.mp h with rfl | h
      · exact Or.inr (Or.inl List.mem_cons_self)
      · exact (ih h).elim (fun h => absurd h List.not_mem_nil) (Or.inr ∘ Or.imp_left (List.mem_cons_of_mem _))
  | case4 st pend x t hn ih =>
    rcases List.mem_append.mp hc with h | h
    · exact Or.inl h
    · rcases ih h with h | h
      · rw [List.mem_singleton.mp h, nstep_hash hn]; exact Or.inr (Or.inl List.mem_cons_self)
      · exact Or.inr (h.imp_left (List.mem_cons_of_mem _))
  | case5 st pend x t hn ih =>
    rcases List.mem_append.mp hc with h | h
    · exact Or.inr (Or.inr h)
    · exact (ih h).elim (fun h => absurd h List.not_mem_nil) (Or.inr ∘ Or.imp_left (List.mem_cons_of_mem _))
  | case6 st pend x t hn ih =>
    exact (ih hc).elim (fun h => absurd h List.not_mem_nil) (Or.inr ∘ Or.imp_left (List.mem_cons_of_mem _))

theorem normGo_spaces_cont {st : NState} (h : (nstep O) st ' ' = .cont st) (n : Nat) (pend R : Str) :
    (normGo O) st pend (List.replicate n ' ' ++ R) = (normGo O) st (pend ++ List.replicate n ' ') R := by
  induction n generalizing pend with
  | zero => simp
  | succ n ih =>
    rw [List.replicate_succ, List.cons_append, normGo, h]
    simp only
    rw [ih]; simp

theorem normGo_letters (caps : Nat → Bool) (m : Nat) : ∀ (k : Nat) (pend R : Str), k + m = 10 →
    (normGo O) (.letters k) pend ((List.range' k m).map (spellAt caps) ++ R) =
      (normGo O) (.letters 10) (pend ++ (List.range' k m).map (spellAt caps)) R := by
  induction m with
  | zero => intro k pend R hk; simp at hk; subst hk; simp
  | succ m ih =>
    intro k pend R hk
    have hk10 : k < 10 := by omega
    rw [List.range'_succ, List.map_cons, List.cons_append, normGo]
    simp only [nstep, spellAt_ne_hash caps k hk10, if_false, hk10, if_true, letterAt_spellAt caps k hk10]
    rw [ih (k + 1) _ R (by omega)]; simp

/-- A marker in any tolerated spelling, after text in which no attempt succeeds, is replaced by the
normalised one. -/
theorem normGo_marker (a : Str) (ms : MarkerStyle) (R : Str) (hacc : (scanAccepts O) .idle a = false) :
    (normGo O) .idle [] (a ++ (renderMarker ms ++ R)) = a ++ (m14 ++ (normGo O) .tail [] R) := by
  simp only [renderMarker, List.cons_append, List.append_assoc, List.nil_append]
  rw [normGo_noaccept a .idle [] _ (by simp) hacc, normGo_spaces_cont rfl]
  have hr : List.range 10 = 0 :: List.range' 1 9 := by decide
  have hns : (isSpaceRe O) (spellAt ms.caps 0) = false := by
    simp only [spellAt, pletters]; cases ms.caps 0 <;> rfl
  have hst : (nstep O) .hash (spellAt ms.caps 0) = .cont (.letters 1) := by
    simp [nstep, spellAt_ne_hash ms.caps 0 (by omega), letterAt_spellAt ms.caps 0 (by omega), hns]
  simp only [hr, List.map_cons, List.cons_append, normGo, hst]
  rw [normGo_letters ms.caps 9 1 _ _ (by omega)]
  cases hsp : ms.sp2 with
  | zero => simp [normGo, nstep]
  | succ n =>
    simp only [List.replicate_succ, List.cons_append, normGo,
      show (nstep O) (.letters 10) ' ' = .cont .after from rfl]
    rw [normGo_spaces_cont rfl]; simp [normGo, nstep]

theorem scanAccepts_infix (pre : Str) : ∀ st suf, (scanAccepts O) st (pre ++ (m13 ++ suf)) = true := by
  induction pre with
  | nil => intro st suf; rfl
  | cons c t ih =>
    intro st suf
    simp only [List.cons_append, scanAccepts]
    cases (nstep O) st c <;> first | exact ih _ _ | rfl

theorem noM13_of_noLoose (a : Str) (h : (noLoose O) a = true) : noM13 a = true := by
  rw [noM13_iff]
  rintro ⟨pre, suf, rfl⟩
  simp only [noLoose, Bool.not_eq_true'] at h
  rw [List.append_assoc, scanAccepts_infix] at h
  cases h

theorem renderHint_gap (h : Hint) (g : Nat) :
    renderHint { h with style := { h.style with gap := g } } = renderHint h := by
  obtain ⟨mark, L, sty⟩ := h
  cases mark with
  | one s => cases s <;> rfl
  | opn s => cases s <;> rfl
  | cls => rfl

theorem noHash_iff (l : Str) : noHash l = true ↔ '#' ∉ l := by simp [noHash]

/-- Hygiene of one line for the free spelling of the marker. -/
structure LooseOk (O : CharOracle) (l : Line) : Prop where
  code : ∀ c, l = .code c → (noLoose O) c.code = true ∧ (∀ h ∈ c.hints, '#' ∉ h.label ∧ (Clean O) h.label)
  iso : ∀ n L, l = .isolated n L → '#' ∉ L ∧ (Clean O) L

/-- A hint comment in any tolerated spelling: the marker is normalised, the spaces after it go. -/
theorem normLine_marker (pre : Str) (ms : MarkerStyle) (n : Nat) (w R : Str)
    (hacc : (scanAccepts O) .idle pre = false) (hne : w ≠ []) (hw : ∀ c ∈ w, (isSpacePy O) c = false)
    (hnh : '#' ∉ w ++ R) :
    (normLine O) (pre ++ (renderMarker ms ++ (List.replicate n ' ' ++ (w ++ R)))) = pre ++ (m14 ++ (w ++ R)) := by
  obtain ⟨x, t, rfl⟩ := List.exists_cons_of_ne_nil hne
  have hd : (List.replicate n ' ' ++ (x :: t ++ R)).dropWhile (isSpaceRe O) = x :: t ++ R :=
    dropWhile_spaces_gen _ rfl n _ fun c hc => by cases hc; exact not_isSpacePy_of _ (hw _ List.mem_cons_self)
  rw [normLine, normGo_marker _ ms _ hacc, normGo_tail_noHash _ (by simpa [List.mem_replicate] using hnh), hd]

theorem normLine_renderLineS (l : Line) (ms : MarkerStyle) (ok : (LooseOk O) l) :
    (normLine O) (renderLineS (l, ms)) = renderLine (gap0 l) := by
  cases l with
  | code c =>
    obtain ⟨hcode, hh⟩ := ok.code c rfl
    have hacc : (scanAccepts O) .idle c.code = false := by simpa [noLoose] using hcode
    cases hhs : c.hints with
    | nil =>
      simp only [renderLineS, hhs, if_true, gap0, renderLine, renderCode]
      simpa [normLine] using normGo_noaccept_end c.code .idle [] (by simp) hacc
    | cons h1 rest =>
      have hlab : ∀ h ∈ h1 :: rest, '#' ∉ h.label ∧ (Clean O) h.label := by rw [← hhs]; exact hh
      have hnh : '#' ∉ renderHint h1 ++ renderHints rest := by
        have h0 := not_mem_renderHints (x := '#') (h1 :: rest) (by decide) (by decide) fun h hh => (hlab h hh).1
        simp only [renderHints_cons, List.mem_append, not_or] at h0 ⊢
        exact h0.2
      have := normLine_marker (c.code ++ List.replicate c.pad ' ') ms (ms.after + h1.style.gap) _ _
        (scanAccepts_append_noColon c.code _ (by simp [List.mem_replicate]) .idle hacc)
        (renderHint_ne h1 (hlab h1 (by simp)).2) (renderHint_nosp h1 (hlab h1 (by simp)).2) hnh
      simp only [renderLineS, hhs, List.cons_ne_nil, if_false, gap0, renderLine, renderCode, renderHints_cons,
        renderHint_gap, List.replicate_succ]
      simpa [m14, ← List.replicate_append_replicate] using this
  | isolated n L =>
    obtain ⟨hL, hcl⟩ := ok.iso n L rfl
    simpa [renderLineS, gap0, renderLine] using normLine_marker (List.replicate n ' ') ms ms.after L []
      (scanAccepts_noColon _ (by simp [List.mem_replicate]) .idle) hcl.ne hcl.nosp (by simpa using hL)

end Paroxy.Hints
