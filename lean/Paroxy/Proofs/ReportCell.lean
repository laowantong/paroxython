/-
Lemmas about the text of the Location cell (Model/ReportCell.lean, Spec/ReportCell.lean):
wrapping only deletes spaces and cuts lines; the parse-back reads the spans again.
-/
import Paroxy.Spec.ReportCell
namespace Paroxy.ReportCell
open Paroxy

/-- `t` is `s` with some spaces deleted. -/
inductive SpDel : Str → Str → Prop
  | nil : SpDel [] []
  | keep (c : Char) {s t : Str} : SpDel s t → SpDel (c :: s) (c :: t)
  | del {s t : Str} : SpDel s t → SpDel (' ' :: s) t

theorem SpDel.refl (s : Str) : SpDel s s := by
  induction s with
  | nil => exact .nil
  | cons c _ ih => exact .keep c ih

theorem SpDel.append {a a' b b' : Str} (h1 : SpDel a a') (h2 : SpDel b b') : SpDel (a ++ b) (a' ++ b') := by
  induction h1 with
  | nil => simpa using h2
  | keep c _ ih => exact .keep c ih
  | del _ ih => exact .del ih

theorem SpDel.trans {a b c : Str} (h1 : SpDel a b) (h2 : SpDel b c) : SpDel a c := by
  induction h1 generalizing c with
  | nil => exact h2
  | keep x _ ih =>
    cases h2 with
    | keep _ h => exact .keep x (ih h)
    | del h => exact .del (ih h)
  | del _ ih => exact .del (ih h2)

theorem SpDel.ws {c : Str} (h : isWs c = true) (x : Str) : SpDel (c ++ x) x := by
  induction c with
  | nil => exact SpDel.refl x
  | cons a t ih =>
    rw [isWs, List.all_cons, Bool.and_eq_true, beq_iff_eq] at h
    obtain ⟨rfl, ht⟩ := h
    exact .del (ih ht)

theorem SpDel.mem {s t : Str} (h : SpDel s t) : ∀ c ∈ t, c ∈ s := by
  induction h with
  | nil => exact fun _ h => h
  | keep x _ ih => exact List.forall_mem_cons.mpr ⟨List.mem_cons_self, fun c hc => List.mem_cons_of_mem _ (ih c hc)⟩
  | del _ ih => exact fun c hc => List.mem_cons_of_mem _ (ih c hc)

/-- Every space of the text directly follows a comma (`b` = "the previous character is a comma"): deleting
such spaces does not change the tokens. -/
def okSp : Bool → Str → Bool
  | _, [] => true
  | b, c :: t => if c = ' ' then b && okSp false t else okSp (c == ',') t

theorem tokensAux_spdel {s t : Str} (h : SpDel s t) : ∀ (b : Bool) (cur : Str),
    okSp b s = true → (b = true → cur = []) → tokensAux cur s = tokensAux cur t := by
  -- a space is allowed after a comma only, where no piece is being read: `tokensAux []` skips it
  have sp : ∀ {b : Bool} {cur u : Str}, okSp b (' ' :: u) = true → (b = true → cur = []) →
      cur = [] ∧ okSp false u = true := by
    intro b cur u hok hb
    rw [okSp, if_pos rfl, Bool.and_eq_true] at hok
    exact ⟨hb hok.1, hok.2⟩
  induction h with
  | nil => intros; rfl
  | @keep c s t _ ih =>
    intro b cur hok hb
    by_cases hc : c = ' '
    · subst hc
      obtain ⟨rfl, hok'⟩ := sp hok hb
      exact ih false [] hok' fun _ => rfl
    · rw [okSp, if_neg hc] at hok
      rw [tokensAux, tokensAux, ih (c == ',') [] hok fun _ => rfl]
      split
      · rfl
      · next hs =>
        refine ih (c == ',') _ hok fun hc2 => ?_
        rw [isSep, hc2] at hs
        exact absurd rfl hs
  | del _ ih =>
    intro b cur hok hb
    obtain ⟨rfl, hok'⟩ := sp hok hb
    exact ih false [] hok' fun _ => rfl

theorem tokens_spdel {s t : Str} (h : SpDel s t) (hok : okSp true s = true) : tokens s = tokens t :=
  tokensAux_spdel h true [] hok (fun _ => rfl)

theorem fill_append (w : Int) (n : Nat) (l : List Str) : (fill w n l).1 ++ (fill w n l).2 = l := by
  fun_induction fill w n l with
  | case1 => rfl
  | case2 n c t h r ih => exact congrArg (c :: ·) ih
  | case3 n c t h => rfl

theorem measure_cons (c : Str) (t : List Str) : measure (c :: t) = c.length + 1 + measure t := by
  simp [measure]; omega

theorem measure_append (a b : List Str) : measure (a ++ b) = measure a + measure b := by
  simp [measure]; omega

theorem breakEnd_pos (r : Str) (sl : Nat) (h : 1 ≤ sl) : 1 ≤ breakEnd r sl := by
  fun_cases breakEnd r sl with
  | case1 _ hy _ _ => exact Nat.le_add_left 1 hy
  | case2 => exact h
  | case3 => exact h
  | case4 => exact h

theorem handleLong_flatten (w : Int) (f : List Str × List Str) :
    (handleLong w f).1.flatten ++ (handleLong w f).2.flatten = f.1.flatten ++ f.2.flatten := by
  fun_cases handleLong w f with
  | case1 r rs h hw sl e =>
    simp only [h, List.flatten_append, List.flatten_cons, List.flatten_nil, List.append_nil, List.append_assoc]
    rw [← List.append_assoc (List.take _ r), List.take_append_drop]
  | case2 => rfl
  | case3 => rfl

theorem handleLong_measure (w : Int) (f : List Str × List Str) : measure (handleLong w f).2 ≤ measure f.2 := by
  fun_cases handleLong w f with
  | case1 r rs h hw sl e =>
    simp only [h, measure_cons, List.length_drop]
    omega
  | case2 => exact Nat.le_refl _
  | case3 => exact Nat.le_refl _

theorem handleLong_fst (w : Int) (f : List Str × List Str) : ∃ l, (handleLong w f).1 = f.1 ++ l := by
  fun_cases handleLong w f with
  | case1 => exact ⟨_, rfl⟩
  | case2 => exact ⟨[], (List.append_nil _).symm⟩
  | case3 => exact ⟨[], (List.append_nil _).symm⟩

/-- On an empty line the first chunk is put whole or, when it does not fit, cut after at least one character. -/
theorem fill_handleLong_head (w : Int) (c : Str) (t : List Str) :
    (¬ (c.length : Int) ≤ w ∧ ∃ e, 1 ≤ e ∧ handleLong w (fill w 0 (c :: t)) = ([c.take e], c.drop e :: t)) ∨
      ∃ l, (fill w 0 (c :: t)).1 = c :: l := by
  unfold fill
  rw [Nat.zero_add]
  split
  · exact .inr ⟨_, rfl⟩
  · rename_i h
    refine .inl ⟨h, breakEnd c (if w < 1 then 1 else w.toNat), breakEnd_pos c _ (by split <;> omega), ?_⟩
    simp [handleLong, Int.not_le.mp h]

theorem handleLong_id (w : Int) (l : List Str) (r : Str) (rs : List Str) (h : (r.length : Int) ≤ w) :
    handleLong w (l, r :: rs) = (l, r :: rs) := by
  unfold handleLong
  simp only
  rw [if_neg (by omega)]

theorem dropLastWs_spdel (l : List Str) : SpDel l.flatten (dropLastWs l).flatten := by
  fun_induction dropLastWs l with
  | case1 => exact .nil
  | case2 c h => simpa using SpDel.ws h []
  | case3 c h => exact SpDel.refl _
  | case4 c d t ih => simpa using SpDel.append (SpDel.refl c) ih

theorem dropLastWs_eq_nil (c : Str) (t : List Str) (h : dropLastWs (c :: t) = []) : t = [] ∧ isWs c = true := by
  cases t with
  | nil => unfold dropLastWs at h; split at h <;> simp_all
  | cons d t => simp [dropLastWs] at h

theorem step_spdel (W ind : Nat) (first : Bool) (c : Str) (t : List Str) :
    SpDel (c :: t).flatten ((step W ind first c t).1.flatten ++ (step W ind first c t).2.flatten) := by
  unfold step
  simp only
  generalize hw : ((W : Int) - if first = true then (ind : Int) else 0) = w
  generalize hch : (if (!first && isWs c) = true then t else c :: t) = chunks
  have h1 : SpDel (c :: t).flatten chunks.flatten := by
    rw [← hch]
    split
    · rename_i h
      simp only [Bool.and_eq_true] at h
      simpa using SpDel.ws h.2 t.flatten
    · exact SpDel.refl _
  have h2 := handleLong_flatten w (fill w 0 chunks)
  have h3 : (fill w 0 chunks).1.flatten ++ (fill w 0 chunks).2.flatten = chunks.flatten := by
    rw [← List.flatten_append, fill_append]
  rw [h3] at h2
  refine h1.trans ?_
  rw [← h2]
  exact SpDel.append (dropLastWs_spdel _) (SpDel.refl _)

theorem fill_measure (w : Int) (n : Nat) (l : List Str) :
    measure (fill w n l).1 + measure (fill w n l).2 = measure l := by
  rw [← measure_append, fill_append]

/-- Every pass consumes a chunk or a character (so the fuel given by `wrapContents` is enough). -/
theorem step_progress (W ind : Nat) (first : Bool) (c : Str) (t : List Str) (hW : 1 ≤ W)
    (hc : first = true → c ≠ []) : measure (step W ind first c t).2 < measure (c :: t) := by
  unfold step
  simp only
  generalize hw : ((W : Int) - if first = true then (ind : Int) else 0) = w
  split
  · have h1 := handleLong_measure w (fill w 0 t)
    have h2 := fill_measure w 0 t
    rw [measure_cons]
    clear hw
    omega
  · rcases fill_handleLong_head w c t with ⟨h3, e, he, hh⟩ | ⟨l, h1⟩
    · rw [hh]
      have hcl : c.length ≠ 0 := by
        cases first with
        | true => exact fun h0 => hc rfl (List.eq_nil_of_length_eq_zero h0)
        | false => simp only [Bool.false_eq_true, if_false, Int.sub_zero] at hw; omega
      simp only [measure_cons, List.length_drop]
      clear hw h3
      omega
    · have h2 := handleLong_measure w (fill w 0 (c :: t))
      have h3 := fill_measure w 0 (c :: t)
      rw [h1, measure_cons] at h3
      clear hw
      omega

theorem isWs_cons_ne (x : Char) (w : Str) (h : x ≠ ' ') : isWs (x :: w) = false := by
  rw [isWs, List.all_cons, beq_eq_false_iff_ne.mpr h, Bool.false_and]

theorem step_first_ne (W ind : Nat) (x : Char) (w' : Str) (t : List Str) (hx : x ≠ ' ') :
    (step W ind true (x :: w') t).1 ≠ [] := by
  unfold step
  simp only [Bool.not_true, Bool.false_and, Bool.false_eq_true, if_false, if_true]
  generalize ((W : Int) - (ind : Int)) = w
  intro h
  -- the line starts with a piece of the first chunk that keeps its first character
  obtain ⟨u, l, hcr⟩ : ∃ u l, (handleLong w (fill w 0 ((x :: w') :: t))).1 = (x :: u) :: l := by
    rcases fill_handleLong_head w (x :: w') t with ⟨_, e, he, hh⟩ | ⟨l, h1⟩
    · obtain ⟨k, rfl⟩ : ∃ k, e = k + 1 := ⟨_, (Nat.sub_add_cancel he).symm⟩
      rw [hh]
      exact ⟨_, _, rfl⟩
    · obtain ⟨l', h2⟩ := handleLong_fst w (fill w 0 ((x :: w') :: t))
      rw [h2, h1]
      exact ⟨_, _, rfl⟩
  rw [hcr] at h
  have := (dropLastWs_eq_nil _ _ h).2
  rw [isWs_cons_ne x _ hx] at this
  cases this

/-- The first chunk, if any, starts with a non-space. -/
def HeadOk (cs : List Str) : Prop := ∀ c t, cs = c :: t → ∃ x w, c = x :: w ∧ x ≠ ' '

theorem wrapLoop_spdel (W ind : Nat) (hW : 1 ≤ W) : ∀ (fuel : Nat) (first : Bool) (cs : List Str),
    measure cs < fuel → (first = true → HeadOk cs) → SpDel cs.flatten (wrapLoop W ind fuel first cs).flatten := by
  intro fuel
  induction fuel with
  | zero => intro _ _ h; omega
  | succ fuel ih =>
    intro first cs hm hh
    cases cs with
    | nil => simp [wrapLoop]; exact .nil
    | cons c t =>
      have hsp := step_spdel W ind first c t
      have hpr : measure (step W ind first c t).2 < measure (c :: t) := by
        apply step_progress W ind first c t hW
        intro hf
        obtain ⟨x, w, hc, _⟩ := hh hf c t rfl
        simp [hc]
      unfold wrapLoop
      simp only
      split
      · rename_i he
        have hnil : (step W ind first c t).1 = [] := by simpa using he
        have hfirst : first = false := by
          cases first with
          | false => rfl
          | true =>
            obtain ⟨x, w, hc, hx⟩ := hh rfl c t rfl
            subst hc
            exact absurd hnil (step_first_ne W ind x w t hx)
        rw [hnil] at hsp
        simp only [List.flatten_nil, List.nil_append] at hsp
        exact hsp.trans (ih first _ (by omega) (by simp [hfirst]))
      · simp only [List.flatten_cons]
        exact hsp.trans (SpDel.append (SpDel.refl _) (ih false _ (by omega) (by simp)))

theorem splitChunks_flatten (s : Str) : (splitChunks s).flatten = s := by
  fun_induction splitChunks s with
  | case1 => rfl
  | case2 c t d w r h he ih =>
    rw [h] at ih
    exact congrArg (c :: ·) ih
  | case3 c t d w r h he ih =>
    rw [h] at ih
    exact congrArg (c :: ·) ih
  | case4 c t h ih => exact congrArg (c :: ·) ih

theorem splitChunks_head (x : Char) (t : Str) : ∃ w r, splitChunks (x :: t) = (x :: w) :: r := by
  unfold splitChunks
  split
  · split
    · exact ⟨_, _, rfl⟩
    · exact ⟨_, _, rfl⟩
  · exact ⟨_, _, rfl⟩

theorem headOk_splitChunks (s : Str) (h : ∀ x t, s = x :: t → x ≠ ' ') : HeadOk (splitChunks s) := by
  intro c t hc
  cases s with
  | nil => simp [splitChunks] at hc
  | cons x u =>
    obtain ⟨w, r, hw⟩ := splitChunks_head x u
    rw [hw] at hc
    injection hc with h1 _
    exact ⟨x, w, h1.symm, h x u rfl⟩

theorem wrapContents_spdel (W ind : Nat) (hW : 1 ≤ W) (s : Str) (h : ∀ x t, s = x :: t → x ≠ ' ') :
    SpDel s (wrapContents W ind s).flatten := by
  have := wrapLoop_spdel W ind hW (measure (splitChunks s) + 1) true (splitChunks s) (by omega)
    (fun _ => headOk_splitChunks s h)
  rwa [splitChunks_flatten] at this

-- A string literal is `String.ofList` of its characters, which `toList` gives back.
theorem tagOpen_eq : tagOpen = ['<','d','e','t','a','i','l','s','>','<','s','u','m','m','a','r','y','>'] :=
  String.toList_ofList
theorem tagMid_eq : tagMid = ['<','/','s','u','m','m','a','r','y','>'] :=
  String.toList_ofList
theorem tagClose_eq : tagClose = ['<','/','d','e','t','a','i','l','s','>'] :=
  String.toList_ofList
theorem tagBr_eq : tagBr = ['<','b','r','>'] :=
  String.toList_ofList
theorem imported_eq : imported = ['_','i','m','p','o','r','t','e','d','_'] :=
  String.toList_ofList

theorem stripGo_append (a b : Str) (h : '<' ∉ a) : stripGo false (a ++ b) = a ++ stripGo false b := by
  induction a with
  | nil => rfl
  | cons c t ih =>
    simp only [List.mem_cons, not_or] at h
    have hc : c ≠ '<' := fun e => h.1 e.symm
    simp [stripGo, hc, ih h.2]

theorem stripGo_open (b : Str) : stripGo false (tagOpen ++ b) = stripGo false b := by simp [tagOpen_eq, stripGo]
theorem stripGo_mid (b : Str) : stripGo false (tagMid ++ b) = stripGo false b := by simp [tagMid_eq, stripGo]
theorem stripGo_close : stripGo false tagClose = [] := by simp [tagClose_eq, stripGo]
theorem stripGo_br (b : Str) : stripGo false (tagBr ++ b) = stripGo false b := by simp [tagBr_eq, stripGo]

theorem stripGo_joinBr (lines : List Str) (rest : Str) (h : ∀ l ∈ lines, '<' ∉ l) :
    stripGo false (joinWith tagBr lines ++ rest) = lines.flatten ++ stripGo false rest := by
  fun_induction joinWith tagBr lines with
  | case1 => rfl
  | case2 a => simp [stripGo_append a rest (h a (by simp))]
  | case3 a b t ih =>
    rw [List.append_assoc, List.append_assoc, stripGo_append a _ (h a (by simp)), stripGo_br,
      ih fun l hl => h l (List.mem_cons_of_mem _ hl)]
    simp

theorem stripTags_wrapped (ls : List Str) (hlt : ∀ l ∈ ls, '<' ∉ l) :
    stripTags (tagOpen ++ ls.headD [] ++ tagMid ++ joinWith tagBr ls.tail ++ tagClose) = ls.flatten := by
  unfold stripTags
  cases ls with
  | nil => simp [stripGo_open, stripGo_mid, joinWith, stripGo_close]
  | cons l r =>
    simp only [List.headD_cons, List.tail_cons, List.append_assoc, List.flatten_cons]
    rw [stripGo_open, stripGo_append l _ (hlt l (by simp)), stripGo_mid,
      stripGo_joinBr r tagClose (fun x hx => hlt x (List.mem_cons_of_mem _ hx)), stripGo_close]
    simp

/-- The cell of a non-empty text: the text itself when it fits, else the `<details>` template around the
wrapped lines, without the indentation of the first. -/
theorem enumerationToTxt_of_ne_nil (W : Nat) (d : Str) {s : Str} (h : s ≠ []) :
    enumerationToTxt W d s = if s.length ≤ W then s else
      tagOpen ++ (wrapContents W 3 s).headD [] ++ tagMid ++ joinWith tagBr (wrapContents W 3 s).tail ++ tagClose := by
  unfold enumerationToTxt wrapLines
  rw [List.isEmpty_eq_false_iff.mpr h, if_neg Bool.false_ne_true]
  cases wrapContents W 3 s <;> simp

/-- A character of a number or of `a-b`. -/
def wordCh (c : Char) : Bool := c.isDigit || c == '-'

theorem wordCh_ne (c : Char) (h : wordCh c = true) : c ≠ ' ' ∧ c ≠ ',' := by
  refine ⟨?_, ?_⟩ <;> (intro e; subst e; revert h; decide)

def toSpan (p : Nat × Nat) : Span := (Int.ofNat p.1, Int.ofNat p.2)

theorem isDigit_digits (n : Nat) : ∀ c ∈ Nat.toDigits 10 n, c.isDigit = true :=
  fun _ hc => Nat.isDigit_of_mem_toDigits (by decide) (by decide) hc

theorem digits_word (n : Nat) : ∀ c ∈ Nat.toDigits 10 n, wordCh c = true := by
  intro c hc
  simp [wordCh, isDigit_digits n c hc]

theorem couple_word (p : Nat × Nat) : ∀ c ∈ coupleToString (toSpan p), wordCh c = true := by
  unfold coupleToString toSpan intStr
  split
  · exact digits_word _
  · exact List.forall_mem_append.mpr ⟨digits_word _, List.forall_mem_cons.mpr ⟨rfl, digits_word _⟩⟩

theorem couple_ne_nil (p : Nat × Nat) : coupleToString (toSpan p) ≠ [] := by
  unfold coupleToString toSpan intStr
  split
  · exact Nat.toDigits_ne_nil
  · simp

theorem tokensAux_word (w : Str) (hw : ∀ c ∈ w, wordCh c = true) (cur rest : Str) :
    tokensAux cur (w ++ rest) = tokensAux (cur ++ w) rest := by
  induction w generalizing cur with
  | nil => simp
  | cons c t ih =>
    have hc := wordCh_ne c (hw c (by simp))
    have hs : isSep c = false := by simp [isSep, hc.1, hc.2]
    simp only [List.cons_append, tokensAux, hs]
    have := ih (fun x hx => hw x (List.mem_cons_of_mem _ hx)) (cur ++ [c])
    simpa using this

theorem okSp_word_append (w : Str) (hw : ∀ c ∈ w, wordCh c = true) (b : Bool) (r : Str) (hr : r.head? ≠ some ' ') :
    okSp b (w ++ r) = okSp false r := by
  induction w generalizing b with
  | nil =>
    cases r with
    | nil => rfl
    | cons x t => simp only [List.nil_append, okSp, if_neg fun e : x = ' ' => hr (e ▸ rfl)]
  | cons c t ih =>
    have hc := wordCh_ne c (hw c (by simp))
    simp only [List.cons_append, okSp, hc.1, if_false]
    exact ih (fun x hx => hw x (List.mem_cons_of_mem _ hx)) _

theorem join_okSp (ps : List (Nat × Nat)) (b : Bool) : okSp b (joinSpans (ps.map toSpan)) = true := by
  induction ps generalizing b with
  | nil => rfl
  | cons a l ih =>
    cases l with
    | nil => simpa [joinSpans, okSp] using okSp_word_append _ (couple_word a) b [] nofun
    | cons c t =>
      simp only [List.map_cons, joinSpans] at ih ⊢
      rw [okSp_word_append _ (couple_word a) b _ (by simp)]
      exact ih false

theorem join_tokens (ps : List (Nat × Nat)) :
    tokens (joinSpans (ps.map toSpan)) = ps.map fun p => coupleToString (toSpan p) := by
  induction ps with
  | nil => rfl
  | cons a l ih =>
    have hne := couple_ne_nil a
    cases l with
    | nil =>
      have := tokensAux_word _ (couple_word a) [] []
      simp only [List.append_nil, List.nil_append] at this
      simp [tokens, joinSpans, this, tokensAux, hne]
    | cons c t =>
      simp only [List.map_cons, joinSpans, tokens] at ih ⊢
      rw [tokensAux_word _ (couple_word a)]
      simp only [List.nil_append, tokensAux, isSep, beq_self_eq_true, Bool.true_or, Bool.or_true, if_true,
        List.isEmpty_nil]
      simp [hne, ih]

theorem join_not_mem (ps : List (Nat × Nat)) (c : Char) (h1 : wordCh c = false) (h2 : c ≠ ',') (h3 : c ≠ ' ') :
    c ∉ joinSpans (ps.map toSpan) := by
  have hw : ∀ a, c ∉ coupleToString (toSpan a) := fun a h => by rw [couple_word a c h] at h1; cases h1
  induction ps with
  | nil => exact List.not_mem_nil
  | cons a l ih =>
    cases l with
    | nil => exact hw a
    | cons d t =>
      simp only [List.map_cons, joinSpans, List.mem_append, List.mem_cons]
      rintro (h | rfl | rfl | h)
      · exact hw a h
      · exact h2 rfl
      · exact h3 rfl
      · exact ih h

theorem join_cons (p : Nat × Nat) (ps : List (Nat × Nat)) :
    ∃ r, joinSpans ((p :: ps).map toSpan) = coupleToString (toSpan p) ++ r := by
  cases ps with
  | nil => exact ⟨[], (List.append_nil _).symm⟩
  | cons q t => exact ⟨_, rfl⟩

theorem join_ne_nil (p : Nat × Nat) (ps : List (Nat × Nat)) : joinSpans ((p :: ps).map toSpan) ≠ [] := by
  obtain ⟨r, hr⟩ := join_cons p ps
  rw [hr]
  exact fun h => couple_ne_nil p (List.append_eq_nil_iff.mp h).1

theorem join_head (ps : List (Nat × Nat)) (x : Char) (t : Str) (h : joinSpans (ps.map toSpan) = x :: t) : x ≠ ' ' := by
  cases ps with
  | nil => cases h
  | cons p ps =>
    obtain ⟨r, hr⟩ := join_cons p ps
    rw [hr] at h
    cases hc : coupleToString (toSpan p) with
    | nil => exact absurd hc (couple_ne_nil p)
    | cons y u =>
      rw [hc] at h
      cases h
      exact (wordCh_ne x (couple_word p x (by rw [hc]; exact List.mem_cons_self))).1

theorem readNat_digits (n : Nat) : readNat (Nat.toDigits 10 n) = some n := by
  simp [readNat, List.isEmpty_eq_false_iff.mpr (Nat.toDigits_ne_nil (n := n) (b := 10)),
    List.all_eq_true.mpr (isDigit_digits n)]

theorem readSpan_couple (p : Nat × Nat) : readSpan (coupleToString (toSpan p)) = some (toSpan p) := by
  obtain ⟨a, b⟩ := p
  have ha : ∀ c ∈ Nat.toDigits 10 a, (c != '-') = true := fun c hc => bne_iff_ne.mpr fun e => by
    have := isDigit_digits a c hc
    subst e
    revert this; decide
  unfold coupleToString toSpan intStr
  simp only
  split
  · rename_i h
    cases Int.ofNat.inj h
    have hd := List.dropWhile_append_of_pos (l₂ := []) ha
    rw [List.append_nil, List.dropWhile_nil] at hd
    simp [readSpan, hd, readNat_digits]
  · rw [readSpan, List.dropWhile_append_of_pos ha, List.takeWhile_append_of_pos ha]
    simp [readNat_digits]

theorem mapM_readSpan (ps : List (Nat × Nat)) :
    (ps.map fun p => coupleToString (toSpan p)).mapM readSpan = some (ps.map toSpan) := by
  induction ps with
  | nil => rfl
  | cons p t ih => simp [List.mapM_cons, readSpan_couple p, ih]

theorem render_tokens (W : Nat) (hW : 1 ≤ W) (p : Nat × Nat) (ps : List (Nat × Nat)) :
    tokens (stripTags (renderCell W ((p :: ps).map toSpan))) =
      (p :: ps).map fun q => coupleToString (toSpan q) := by
  rw [← join_tokens]
  generalize hs : joinSpans ((p :: ps).map toSpan) = s
  have hne : s ≠ [] := hs ▸ join_ne_nil p ps
  have hlt : '<' ∉ s := hs ▸ join_not_mem (p :: ps) '<' rfl (by decide) (by decide)
  have hhead : ∀ x t, s = x :: t → x ≠ ' ' := fun x t e =>
    join_head (p :: ps) x t (hs.trans e)
  have hok : okSp true s = true := hs ▸ join_okSp (p :: ps) true
  rw [renderCell, hs, enumerationToTxt_of_ne_nil W _ hne]
  split
  · have := stripGo_append s [] hlt
    simp only [List.append_nil, stripGo] at this
    unfold stripTags
    rw [this]
  · have hsp := wrapContents_spdel W 3 hW s hhead
    rw [stripTags_wrapped _ (fun l hl hc => hlt (hsp.mem _ (List.mem_flatten.mpr ⟨l, hl, hc⟩)))]
    exact (tokens_spdel hsp hok).symm

theorem render_ne_imported (W : Nat) (p : Nat × Nat) (ps : List (Nat × Nat)) :
    renderCell W ((p :: ps).map toSpan) ≠ imported := by
  generalize hs : joinSpans ((p :: ps).map toSpan) = s
  have hne : s ≠ [] := hs ▸ join_ne_nil p ps
  have hu : '_' ∉ s := hs ▸ join_not_mem (p :: ps) '_' rfl (by decide) (by decide)
  rw [renderCell, hs, enumerationToTxt_of_ne_nil W _ hne]
  split
  · intro e
    exact hu (e ▸ (by rw [imported_eq]; decide +kernel : '_' ∈ imported))
  · rw [tagOpen_eq, imported_eq]
    intro e
    cases (List.cons.inj e).1

theorem exists_toSpan (spans : List Span) (h : ∀ sp ∈ spans, 0 ≤ sp.1 ∧ 0 ≤ sp.2) :
    ∃ ps : List (Nat × Nat), ps.map toSpan = spans := by
  induction spans with
  | nil => exact ⟨[], rfl⟩
  | cons sp t ih =>
    obtain ⟨h1, ht⟩ := List.forall_mem_cons.mp h
    obtain ⟨ps, rfl⟩ := ih ht
    refine ⟨(sp.1.toNat, sp.2.toNat) :: ps, ?_⟩
    simp only [List.map_cons, toSpan, Int.ofNat_eq_natCast, Int.toNat_of_nonneg h1.1, Int.toNat_of_nonneg h1.2]

theorem parse_render (W : Nat) (hW : 1 ≤ W) (spans : List Span) (hn : ∀ sp ∈ spans, 0 ≤ sp.1 ∧ 0 ≤ sp.2) :
    parseCell (renderCell W spans) = some spans := by
  obtain ⟨ps, rfl⟩ := exists_toSpan spans hn
  cases ps with
  | nil => simp [renderCell, enumerationToTxt, joinSpans, parseCell]
  | cons p t =>
    unfold parseCell
    rw [if_neg (render_ne_imported W p t), render_tokens W hW p t]
    simp only [List.map_cons, List.isEmpty_cons, Bool.false_eq_true, if_false]
    exact mapM_readSpan (p :: t)

end Paroxy.ReportCell
