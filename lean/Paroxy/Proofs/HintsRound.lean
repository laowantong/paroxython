/-
Helper lemmas for C12: `get_program` on a decorated program, assembled from the character-level
lemmas (HintsChars) and the token-level ones (HintsSched).
-/
import Paroxy.Proofs.HintsChars
import Paroxy.Proofs.HintsSched
import Paroxy.Proofs.HintsNorm
import Paroxy.Proofs.HintsTrim
import Paroxy.Proofs.Isort
namespace Paroxy.Hints

variable {O : CharOracle}

theorem mem_dedup (x : Str) (l : List Str) : x ∈ dedup l ↔ x ∈ l := by
  induction l with
  | nil => simp [dedup]
  | cons y t ih =>
    simp only [dedup]
    split
    · rename_i h
      simp only [ih, List.mem_cons]
      constructor
      · exact Or.inr
      · rintro (rfl | h')
        · exact ih.mp h
        · exact h'
    · simp [ih]

theorem nodup_dedup (l : List Str) : (dedup l).Nodup := by
  induction l with
  | nil => simp [dedup]
  | cons y t ih =>
    simp only [dedup]
    split
    · exact ih
    · rename_i h; exact List.nodup_cons.mpr ⟨h, ih⟩

theorem mem_sortDedup (x : Str) (l : List Str) : x ∈ sortDedup l ↔ x ∈ l := by
  rw [sortDedup, (isort_perm _ _).mem_iff, mem_dedup]

theorem nodup_sortDedup (l : List Str) : (sortDedup l).Nodup :=
  (isort_perm _ _).nodup_iff.mpr (nodup_dedup l)

theorem sortDedup_nil : sortDedup [] = [] := rfl

theorem sortDedup_ne_nil {l : List Str} (h : l ≠ []) : sortDedup l ≠ [] := by
  cases l with
  | nil => exact absurd rfl h
  | cons x t =>
    intro e
    have : x ∈ sortDedup (x :: t) := (mem_sortDedup _ _).mpr (by simp)
    rw [e] at this; simp at this

def Line.code? : Line → Option CodeLine
  | .code c => some c
  | .isolated _ _ => none

def Line.label? : Line → Option Str
  | .code _ => none
  | .isolated _ L => some L

theorem codeLines_eq (d : Decorated) : codeLines d = d.filterMap Line.code? := by
  induction d with
  | nil => rfl
  | cons l t ih => cases l <;> simp [codeLines, List.filterMap_cons, Line.code?, ih]

theorem wholeLabels_eq (d : Decorated) : wholeLabels d = d.filterMap Line.label? := by
  induction d with
  | nil => rfl
  | cons l t ih => cases l <;> simp [wholeLabels, List.filterMap_cons, Line.label?, ih]

theorem mem_codeLines_iff (d : Decorated) (c : CodeLine) : c ∈ codeLines d ↔ Line.code c ∈ d := by
  rw [codeLines_eq, List.mem_filterMap]
  constructor
  · rintro ⟨l, hl, h⟩
    cases l with
    | code c' => cases h; exact hl
    | isolated n L => cases h
  · exact fun h => ⟨_, h, rfl⟩

theorem mem_wholeLabels_iff (d : Decorated) (L : Str) : L ∈ wholeLabels d ↔ ∃ n, Line.isolated n L ∈ d := by
  rw [wholeLabels_eq, List.mem_filterMap]
  constructor
  · rintro ⟨l, hl, h⟩
    cases l with
    | code c' => cases h
    | isolated n L' => cases h; exact ⟨n, hl⟩
  · exact fun ⟨n, h⟩ => ⟨_, h, rfl⟩

structure Hyg (O : CharOracle) (d : Decorated) : Prop where
  ok : ∀ c ∈ codeLines d, (OkCode O) c
  whole : ∀ L ∈ wholeLabels d, (Clean O) L
  ne : codeLines d ≠ []
  first : ∀ c, (codeLines d).head? = some c → c.code ≠ []
  last : ∀ c, (codeLines d).getLast? = some c → c.code ≠ []

theorem hyg_of (d : Decorated) (h : (hygienic O) d = true) : (Hyg O) d := by
  simp only [hygienic, Bool.and_eq_true, List.all_eq_true] at h
  obtain ⟨⟨h1, h2⟩, h3⟩ := h
  cases hcs : codeLines d with
  | nil => simp [hcs] at h3
  | cons c cs =>
    simp only [hcs, Bool.and_eq_true] at h3
    refine ⟨fun x hx => okCode_of x (h1 x hx), fun L hL => clean_of L (h2 L hL), by simp [hcs], ?_, ?_⟩
    · intro c' hc'
      rw [hcs] at hc'; simp at hc'; subst hc'
      simpa [firstOk] using h3.1
    · intro c' hc'
      rw [hcs, List.getLast?_eq_some_getLast (by simp)] at hc'
      simp only [Option.some.injEq] at hc'
      subst hc'
      simpa [lastOk] using h3.2

theorem stripPy_plain (cs : List CodeLine) (hne : cs ≠ [])
    (hfirst : ∀ c, cs.head? = some c → ∃ x t, c.code = x :: t ∧ (isSpacePy O) x = false)
    (hlast : ∀ c, cs.getLast? = some c → c.code ≠ [] ∧ ∀ x, c.code.getLast? = some x → (isSpacePy O) x = false) :
    (stripPy O) (joinNL (plainLines cs)) = joinNL (plainLines cs) := by
  apply stripPy_id
  · intro x hx
    cases cs with
    | nil => exact absurd rfl hne
    | cons c t =>
      obtain ⟨y, r, hy, hsp⟩ := hfirst c rfl
      simp only [plainLines, List.map_cons] at hx
      rw [joinNL_head? _ _ (by simp [hy]), hy] at hx
      simp at hx; subst hx; exact hsp
  · intro x hx
    have hc := List.getLast?_eq_some_getLast hne
    obtain ⟨h1, h2⟩ := hlast _ hc
    have : (plainLines cs).getLast? = some (cs.getLast hne).code := by simp [plainLines, hc]
    rw [joinNL_getLast? _ _ this h1] at hx
    exact h2 x hx

theorem splitWs_clean (L : Str) (h : (Clean O) L) : (splitWs O) L = [L] := by
  have := splitWs_word L [] h.nosp h.ne rfl
  simpa [splitWs, splitWs'] using this

theorem scanIsolated_decorated (d : Decorated) (ok : ∀ c ∈ codeLines d, (OkCode O) c)
    (hw : ∀ L ∈ wholeLabels d, (Clean O) L) :
    (scanIsolated O) (d.map renderLine) = ((codeLines d).map renderCode, wholeLabels d) := by
  induction d with
  | nil => rfl
  | cons l t ih =>
    cases l with
    | code c =>
      have okc := ok c (by simp [codeLines])
      have := ih (fun x hx => ok x (by simp [codeLines, hx])) (fun L hL => hw L (by simpa [wholeLabels] using hL))
      simp [scanIsolated, renderLine, isolatedRest_renderCode c okc, this, codeLines, wholeLabels]
    | isolated n L =>
      have hL := hw L (by simp [wholeLabels])
      have := ih (fun x hx => ok x (by simpa [codeLines] using hx)) (fun L' hL' => hw L' (by simp [wholeLabels, hL']))
      simp [scanIsolated, renderLine, isolatedRest_isolated n L, splitWs_clean L hL, this, codeLines, wholeLabels]

theorem renderLine_noNL (d : Decorated) (ok : ∀ c ∈ codeLines d, (OkCode O) c)
    (hw : ∀ L ∈ wholeLabels d, (Clean O) L) : ∀ l ∈ d.map renderLine, '\n' ∉ l := by
  refine List.forall_mem_map.mpr fun l hl => ?_
  cases l with
  | code c => exact renderCode_noNL c (ok c ((mem_codeLines_iff d c).mpr hl))
  | isolated n L =>
    simp only [renderLine, List.mem_append, not_or]
    exact ⟨by simp [List.mem_replicate], by decide, (hw L ((mem_wholeLabels_iff d L).mpr ⟨n, hl⟩)).noNL⟩

theorem lines_of_no_isolated (d : Decorated) (h : wholeLabels d = []) :
    d.map renderLine = (codeLines d).map renderCode := by
  induction d with
  | nil => rfl
  | cons l t ih =>
    cases l with
    | code c => simp [renderLine, codeLines, ih (by simpa [wholeLabels] using h)]
    | isolated n L => simp [wholeLabels] at h

theorem renderHints_flatMap (g : Str → List Hint) (tok : Str → Str) (h : ∀ w, renderHints (g w) = tok w)
    (ws : List Str) : renderHints (ws.flatMap g) = ws.flatMap tok := by
  rw [show tok = fun w => renderHints (g w) from funext fun w => (h w).symm]
  simp [renderHints, List.flatMap_assoc]

/-- `lines[i] += " # paroxython:"` (if needed) then the appended tokens = the same code line with
more hints. -/
theorem addMarker_render (c : CodeLine) (ok : (OkCode O) c) (hs : List Hint) (hne : hs ≠ []) :
    addMarker (renderCode c) ++ renderHints hs = renderCode (c.addHints hs) := by
  have hne' : c.hints ++ hs ≠ [] := by simp [hne]
  by_cases h : c.hints = []
  · have : hasInfix m13 c.code = false := by simpa [noM13] using ok.nom
    simp [addMarker, this, renderCode, CodeLine.addHints, h, hne]
  · have hin : hasInfix m13 (renderCode c) = true := by
      rw [hasInfix_iff, renderCode_hinted c h, hintPart]
      exact ⟨c.code ++ List.replicate c.pad ' ', renderHints c.hints, by simp⟩
    rw [addMarker, if_pos hin]
    simp [renderCode, CodeLine.addHints, h, renderHints]

theorem addHints_nil_render (c : CodeLine) : renderCode (c.addHints []) = renderCode c := by
  by_cases h : c.hints = [] <;> simp [renderCode, CodeLine.addHints, h]

theorem dropLast_cons_snoc {α : Type} (x : α) (t : List α) (last : α) :
    (x :: (t ++ [last])).dropLast = x :: t := by
  rw [← List.cons_append, List.dropLast_concat]

theorem getLast_cons_snoc {α : Type} (x : α) (t : List α) (last : α) (h) :
    (x :: (t ++ [last])).getLast h = last := by
  simp [List.getLast_cons]

theorem centLines_snoc (hs : List Str) (l : Str) (mid : List Str) (last : Str) :
    centLines hs (l :: (mid ++ [last])) =
      (addMarker l ++ hs.flatMap openTok) :: (mid ++ [addMarker last ++ hs.flatMap closeTok]) := by
  cases mid with
  | nil => simp [centLines]
  | cons m t => simp only [List.cons_append, centLines, dropLast_cons_snoc, getLast_cons_snoc]

theorem exists_snoc {α : Type} (a : α) (l : List α) : ∃ mid last, a :: l = mid ++ [last] :=
  ⟨(a :: l).dropLast, (a :: l).getLast (by simp), (List.dropLast_concat_getLast (by simp)).symm⟩

theorem map_flatMap_nil {α β : Type} (f : α → List β) : ([] : List α).flatMap f = [] := rfl

theorem centrifuged_cases (ws : List Str) (cs : List CodeLine) :
    cs = [] ∨ (∃ c, cs = [c] ∧ centrifuged ws cs = [c.addHints (ws.flatMap fun L => [wOpen L, wClose L])]) ∨
      ∃ c mid last, cs = c :: (mid ++ [last]) ∧
        centrifuged ws cs = c.addHints (ws.map wOpen) :: (mid ++ [last.addHints (ws.map wClose)]) := by
  cases cs with
  | nil => exact Or.inl rfl
  | cons c t =>
    cases t with
    | nil => exact Or.inr (Or.inl ⟨c, rfl, rfl⟩)
    | cons c2 t2 =>
      obtain ⟨mid, last, hml⟩ := exists_snoc c2 t2
      refine Or.inr (Or.inr ⟨c, mid, last, by rw [hml], ?_⟩)
      rw [hml]; cases mid <;> simp [centrifuged, dropLast_cons_snoc, getLast_cons_snoc]

theorem centLines_render (ws : List Str) (hws : ws ≠ []) (cs : List CodeLine) (ok : ∀ c ∈ cs, (OkCode O) c) :
    centLines ws (cs.map renderCode) = (centrifuged ws cs).map renderCode := by
  -- the appended tokens are the rendering of the appended hints
  have hB : renderHints (ws.flatMap fun L => [wOpen L, wClose L]) = ws.flatMap fun h => openTok h ++ closeTok h :=
    renderHints_flatMap _ _ (fun w => by
      simp [renderHints, wOpen, wClose, renderHint, sign, ellipsis, openTok, closeTok]) ws
  have hO : renderHints (ws.map wOpen) = ws.flatMap openTok := List.map_eq_flatMap ▸
    renderHints_flatMap _ _ (fun w => by simp [renderHints, wOpen, renderHint, sign, ellipsis, openTok]) ws
  have hC : renderHints (ws.map wClose) = ws.flatMap closeTok := List.map_eq_flatMap ▸
    renderHints_flatMap _ _ (fun w => by simp [renderHints, wClose, renderHint, ellipsis, closeTok]) ws
  rcases centrifuged_cases ws cs with rfl | ⟨c, rfl, h⟩ | ⟨c, mid, last, rfl, h⟩
  · rfl
  · have h1 : (ws.flatMap fun L => [wOpen L, wClose L]) ≠ [] := by
      obtain ⟨w, r, rfl⟩ := List.exists_cons_of_ne_nil hws
      simp
    rw [h, List.map_singleton, List.map_singleton, centLines, ← hB, addMarker_render c (ok c (by simp)) _ h1]
  · rw [h, List.map_cons, List.map_append, List.map_singleton, centLines_snoc, ← hO, ← hC,
      addMarker_render c (ok c (by simp)) _ (by simpa using hws),
      addMarker_render last (ok last (by simp)) _ (by simpa using hws)]
    simp

theorem centrifuged_nil_render (cs : List CodeLine) :
    (centrifuged [] cs).map renderCode = cs.map renderCode := by
  rcases centrifuged_cases [] cs with rfl | ⟨c, rfl, h⟩ | ⟨c, mid, last, rfl, h⟩
  · rfl
  all_goals rw [h]; simp [addHints_nil_render]

theorem centrifuged_plain (ws : List Str) (cs : List CodeLine) :
    plainLines (centrifuged ws cs) = plainLines cs := by
  rcases centrifuged_cases ws cs with rfl | ⟨c, rfl, h⟩ | ⟨c, mid, last, rfl, h⟩
  · rfl
  all_goals rw [h]; simp [plainLines, CodeLine.addHints]

theorem trimBlank_id (ls : List Str) (hf : ∀ l, ls.head? = some l → (blankPy O) l = false)
    (hl : ∀ l, ls.getLast? = some l → (blankPy O) l = false) : (trimBlank O) ls = ls :=
  trimBoth_id _ ls hf hl

theorem blankPy_false_of_mem {l : Str} {x : Char} (hx : x ∈ l) (hs : (isSpacePy O) x = false) : (blankPy O) l = false := by
  simp only [blankPy, List.all_eq_false]
  exact ⟨x, hx, by simp [hs]⟩

theorem renderCode_code_sub (c : CodeLine) : ∀ x ∈ c.code, x ∈ renderCode c := by
  intro x hx
  by_cases h : c.hints = []
  · rw [renderCode_plain c h]; exact hx
  · rw [renderCode_hinted c h]; simp [hx]

theorem renderCode_not_blank (c : CodeLine) (ok : (OkCode O) c) (hne : c.code ≠ []) :
    (blankPy O) (renderCode c) = false := by
  obtain ⟨x, hx, hs⟩ := exists_of_getLast hne ok.notrail
  exact blankPy_false_of_mem (renderCode_code_sub c x hx) hs

theorem trimBlank_render (d : Decorated) (hy : (Hyg O) d) :
    (trimBlank O) ((codeLines d).map renderCode) = (codeLines d).map renderCode :=
  trimBlank_id _
    (forall_head?_map.mpr fun c hc => renderCode_not_blank c (hy.ok c (List.mem_of_head? hc)) (hy.first c hc))
    (forall_getLast?_map.mpr fun c hc => renderCode_not_blank c (hy.ok c (List.mem_of_getLast? hc)) (hy.last c hc))

/-- **`centrifugate_hints` on a decorated program**: the isolated hints disappear, their labels
(sorted, without repetition) are opened at the end of the first code line and closed at the end of
the last one. -/
theorem centrifugate_decorate (d : Decorated) (hy : (Hyg O) d) :
    (centrifugate O) (decorate d) =
      .ok (joinNL ((centrifuged (sortDedup (wholeLabels d)) (codeLines d)).map renderCode)) := by
  have hdne : d ≠ [] := by
    intro e; exact hy.ne (by simp [e, codeLines])
  have hsplit : splitNL (decorate d) = d.map renderLine :=
    splitNL_joinNL _ (by simpa using hdne) (renderLine_noNL d hy.ok hy.whole)
  have hscan := scanIsolated_decorated d hy.ok hy.whole
  unfold centrifugate
  simp only [hsplit, hscan, trimBlank_render d hy]
  by_cases hw : wholeLabels d = []
  · simp only [hw, if_true, sortDedup_nil, centrifuged_nil_render]
  · simp only [hw, if_false]
    cases hcs : codeLines d with
    | nil => exact absurd hcs hy.ne
    | cons c t =>
      simp only [List.map_cons]
      have := centLines_render (sortDedup (wholeLabels d)) (sortDedup_ne_nil hw) (c :: t)
        (by rw [← hcs]; exact hy.ok)
      simp only [List.map_cons] at this
      rw [this]

def numbered : Nat → List CodeLine → List (Nat × Hint)
  | _, [] => []
  | i, c :: cs => c.hints.map (fun h => (i, h)) ++ numbered (i + 1) cs

theorem numberedTokens_render (i : Nat) (cs : List CodeLine) (ok : ∀ c ∈ cs, (OkCode O) c) :
    (numberedTokens O) i (cs.map renderCode) = (numbered i cs).map fun p => (p.1, renderHint p.2) := by
  induction cs generalizing i with
  | nil => rfl
  | cons c t ih =>
    simp [numberedTokens, numbered, hintTokens_renderCode c (ok c (by simp)),
      ih (i + 1) (fun x hx => ok x (List.mem_cons_of_mem _ hx))]

theorem stepTok_render (i : Nat) (st : Bufs) (h : Hint) (hc : (Clean O) h.label) :
    (stepTok O) i st (renderHint h) = stepEv i st (tokOf h) := by
  obtain ⟨mark, L, sty⟩ := h
  obtain ⟨plus, uni, gap⟩ := sty
  cases L with
  | nil => exact absurd rfl hc.ne
  | cons c l =>
    have hw : (isWord O) c = true := hc.word c rfl
    have hno : splitAfter (c :: l) = (c :: l, false) := hc.noell
    have hel : ∀ u, splitAfter (c :: (l ++ ellipsis u)) = (c :: l, true) := fun u => splitAfter_ellipsis (c :: l) u
    cases mark with
    | one s =>
      cases s <;> cases plus <;>
        simp [stepTok, renderHint, tokOf, sign, matchLabel_word, matchLabel_plus, matchLabel_minus, hw, hno]
    | opn s =>
      cases s <;> cases plus <;>
        simp [stepTok, renderHint, tokOf, sign, matchLabel_word, matchLabel_plus, matchLabel_minus, hw, hel]
    | cls =>
      cases uni
      · simp [stepTok, renderHint, tokOf, ellipsis, dots3, matchLabel_dots3, hw, hno]
      · have := matchLabel_ell c l hw
        simp [stepTok, renderHint, tokOf, ellipsis, this, hno]

theorem runToks_render (st : Bufs) (toks : List (Nat × Hint)) (hc : ∀ p ∈ toks, (Clean O) p.2.label) :
    (runToks O) st (toks.map fun p => (p.1, renderHint p.2)) = runH st toks := by
  induction toks generalizing st with
  | nil => rfl
  | cons p t ih =>
    obtain ⟨i, h⟩ := p
    simp only [List.map_cons, runToks, runH, stepTok_render i st h (hc (i, h) (by simp))]
    cases stepEv i st (tokOf h) with
    | ok st' => exact ih st' (fun q hq => hc q (List.mem_cons_of_mem _ hq))
    | error e => rfl

theorem mem_numbered {i : Nat} {cs : List CodeLine} {p : Nat × Hint} (h : p ∈ numbered i cs) :
    i ≤ p.1 ∧ ∃ c ∈ cs, p.2 ∈ c.hints := by
  induction cs generalizing i with
  | nil => cases h
  | cons c t ih =>
    rcases List.mem_append.mp h with h | h
    · obtain ⟨x, hx, rfl⟩ := List.mem_map.mp h
      exact ⟨Nat.le_refl _, c, by simp, hx⟩
    · obtain ⟨hle, c', hc', hp⟩ := ih h
      exact ⟨Nat.le_of_succ_le hle, c', List.mem_cons_of_mem _ hc', hp⟩

theorem okCode_addHints (c : CodeLine) (ok : (OkCode O) c) (hs : List Hint) (hne : c.code ≠ [])
    (hc : ∀ h ∈ hs, (Clean O) h.label) : (OkCode O) (c.addHints hs) :=
  ⟨ok.nonl, ok.nom, ok.notrail, fun _ => hne, fun h hh => by
    simp only [CodeLine.addHints, List.mem_append] at hh
    rcases hh with hh | hh
    · exact ok.clean h hh
    · exact hc h hh⟩

theorem okCode_centrifuged (ws : List Str) (hws : ∀ L ∈ ws, (Clean O) L) (cs : List CodeLine)
    (ok : ∀ c ∈ cs, (OkCode O) c)
    (hfirst : ∀ c, cs.head? = some c → c.code ≠ []) (hlast : ∀ c, cs.getLast? = some c → c.code ≠ []) :
    ∀ c ∈ centrifuged ws cs, (OkCode O) c := by
  have hcl : ∀ g : Str → List Hint, (∀ x, ∀ h ∈ g x, h.label = x) → ∀ h ∈ ws.flatMap g, (Clean O) h.label := by
    intro g hg h hh
    obtain ⟨L, hL, hm⟩ := List.mem_flatMap.mp hh
    rw [hg L h hm]; exact hws L hL
  have hB := hcl (fun L => [wOpen L, wClose L]) (by simp [wOpen, wClose])
  have hO := List.map_eq_flatMap ▸ hcl (fun L => [wOpen L]) (by simp [wOpen])
  have hC := List.map_eq_flatMap ▸ hcl (fun L => [wClose L]) (by simp [wClose])
  rcases centrifuged_cases ws cs with rfl | ⟨c, rfl, h⟩ | ⟨c, mid, last, rfl, h⟩
  · simp [centrifuged]
  · rw [h]; intro x hx
    rw [List.mem_singleton.mp hx]
    exact okCode_addHints c (ok c (by simp)) _ (hfirst c rfl) hB
  · rw [h]; intro x hx
    have hlast' : last.code ≠ [] := hlast last (by simp [List.getLast?_cons])
    simp only [List.mem_cons, List.mem_append, List.not_mem_nil, or_false] at hx
    rcases hx with rfl | hx | rfl
    · exact okCode_addHints c (ok c (by simp)) _ (hfirst c rfl) hO
    · exact ok x (by simp [hx])
    · exact okCode_addHints last (ok last (by simp)) _ hlast' hC

theorem evsOf_nil (L : Str) : evsOf L [] = [] := rfl

theorem evsOf_append (L : Str) (a b : List (Nat × Hint)) : evsOf L (a ++ b) = evsOf L a ++ evsOf L b := by
  simp [evsOf]

theorem evsOf_numbered_cons (L : Str) (i : Nat) (c : CodeLine) (cs : List CodeLine) :
    evsOf L (numbered i (c :: cs)) = hintEvs L i c.hints ++ evsOf L (numbered (i + 1) cs) := by
  rw [numbered, evsOf_append]; simp [evsOf, hintEvs, List.filterMap_map, Function.comp_def]

theorem hintEvs_append (L : Str) (i : Nat) (a b : List Hint) :
    hintEvs L i (a ++ b) = hintEvs L i a ++ hintEvs L i b := by
  simp [hintEvs]

theorem hintEvs_flatMap (L : Str) (i : Nat) (g : Str → List Hint) (hg : ∀ x, ∀ h ∈ g x, h.label = x)
    (ws : List Str) (hnd : ws.Nodup) :
    hintEvs L i (ws.flatMap g) = if L ∈ ws then hintEvs L i (g L) else [] := by
  induction ws with
  | nil => rfl
  | cons w t ih =>
    have hnd' := List.nodup_cons.mp hnd
    rw [List.flatMap_cons, hintEvs_append, ih hnd'.2]
    by_cases hw : w = L
    · subst hw
      simp [hnd'.1]
    · have hne : ¬ L = w := fun e => hw e.symm
      have h0 : hintEvs L i (g w) = [] :=
        List.filterMap_eq_nil_iff.mpr fun x hx => if_neg (by rw [hg w x hx]; exact hw)
      simp [h0, hne]

theorem eventsFrom_tail (L : Str) (ws : List Str) (hnd : ws.Nodup) (n : Nat) (last : CodeLine) (mid : List CodeLine) :
    ∀ i, 2 ≤ i → i + mid.length = n →
      eventsFrom L (decide (L ∈ ws)) n i (mid ++ [last]) =
        evsOf L (numbered i (mid ++ [last.addHints (ws.map wClose)])) := by
  induction mid with
  | nil =>
    intro i h2 hn
    simp only [List.length_nil, Nat.add_zero] at hn
    subst hn
    have h1 : (i == 1) = false := by simp; omega
    have hC := hintEvs_flatMap L i (fun x => [wClose x]) (by simp [wClose]) ws hnd
    rw [← List.map_eq_flatMap] at hC
    rw [List.nil_append, List.nil_append, evsOf_numbered_cons]
    simp only [numbered, evsOf_nil, List.append_nil, CodeLine.addHints, hintEvs_append, hC, eventsFrom, h1]
    by_cases h : L ∈ ws <;> simp [h, hintEvs, wClose, Mark.ev]
  | cons m t ih =>
    intro i h2 hn
    simp only [List.length_cons] at hn
    have h1 : (i == 1) = false := by simp; omega
    have hne : (i == n) = false := by simp; omega
    simp only [List.cons_append, eventsFrom, h1, hne, Bool.and_false, Bool.false_eq_true, if_false,
      List.nil_append, evsOf_numbered_cons]
    rw [ih (i + 1) (by omega) (by omega)]

theorem eventsFrom_centrifuged (L : Str) (ws : List Str) (hnd : ws.Nodup) (cs : List CodeLine) :
    evsOf L (numbered 1 (centrifuged ws cs)) = eventsFrom L (decide (L ∈ ws)) cs.length 1 cs := by
  rcases centrifuged_cases ws cs with rfl | ⟨c, rfl, h⟩ | ⟨c, mid, last, rfl, h⟩
  · rfl
  · have hB := hintEvs_flatMap L 1 (fun x => [wOpen x, wClose x]) (by simp [wOpen, wClose]) ws hnd
    rw [h, evsOf_numbered_cons]
    simp only [numbered, evsOf_nil, List.append_nil, CodeLine.addHints, hintEvs_append, hB, eventsFrom,
      List.length_singleton]
    by_cases h : L ∈ ws <;> simp [h, hintEvs, wOpen, wClose, Mark.ev]
  · have hO := hintEvs_flatMap L 1 (fun x => [wOpen x]) (by simp [wOpen]) ws hnd
    rw [← List.map_eq_flatMap] at hO
    have hlen : (c :: (mid ++ [last])).length = mid.length + 2 := by simp
    have hn1 : (1 == mid.length + 2) = false := by simp
    rw [h, evsOf_numbered_cons, hlen, ← eventsFrom_tail L ws hnd (mid.length + 2) last mid 2 (by omega) (by omega)]
    simp only [eventsFrom, hn1, Bool.and_false, Bool.false_eq_true, if_false, List.nil_append,
      CodeLine.addHints, hintEvs_append, hO]
    by_cases h : L ∈ ws <;> simp [h, hintEvs, wOpen, Mark.ev]
theorem numbered_sorted (i : Nat) (cs : List CodeLine) : (numbered i cs).Pairwise fun a b => a.1 ≤ b.1 := by
  induction cs generalizing i with
  | nil => exact List.Pairwise.nil
  | cons c t ih =>
    refine List.pairwise_append.mpr ⟨List.pairwise_map.mpr (List.pairwise_of_forall fun _ _ => Nat.le_refl _), ih (i + 1), ?_⟩
    intro a ha b hb
    obtain ⟨x, -, rfl⟩ := List.mem_map.mp ha
    exact Nat.le_of_succ_le (mem_numbered hb).1

theorem noTie_of (w : List Ev) (h : noTie w = true) : NoTie w := by
  intro i h1 h2
  simp only [noTie, List.all_eq_true] at h
  have := h _ h1
  simp at this
  exact this h2

theorem mem_labelsOf (L : Str) (res : List Entry) : L ∈ labelsOf res ↔ ∃ e ∈ res, e.1 = L := by
  induction res with
  | nil => simp [labelsOf]
  | cons e t ih =>
    simp only [labelsOf, List.mem_cons, List.mem_filter, ih, decide_eq_true_eq]
    constructor
    · rintro (rfl | ⟨⟨x, hx, rfl⟩, _⟩)
      · exact ⟨e, Or.inl rfl, rfl⟩
      · exact ⟨x, Or.inr hx, rfl⟩
    · rintro ⟨x, rfl | hx, rfl⟩
      · exact Or.inl rfl
      · by_cases h : x.1 = e.1
        · exact Or.inl h
        · exact Or.inr ⟨⟨x, hx, rfl⟩, h⟩

theorem nodup_labelsOf (res : List Entry) : (labelsOf res).Nodup := by
  induction res with
  | nil => simp [labelsOf]
  | cons e t ih =>
    simp only [labelsOf]
    refine List.nodup_cons.mpr ⟨by simp, ih.sublist List.filter_sublist⟩

/-- A result, read out: distinct labels, each with its spans sorted (`spanLe` is transitive and total). -/
theorem getResult_shape (res : List Entry) : ((getResult res).map (·.1)).Nodup ∧
    ∀ e ∈ getResult res, e.2.Pairwise (fun a b => spanLe a b = true) := by
  refine ⟨by simpa [getResult, Function.comp_def] using nodup_labelsOf res, fun e he => ?_⟩
  simp only [getResult, List.mem_map] at he
  obtain ⟨L, _, rfl⟩ := he
  apply isort_pairwise
  · intro a b c hab hbc
    simp only [spanLe, Bool.or_eq_true, decide_eq_true_eq, Bool.and_eq_true, beq_iff_eq] at hab hbc ⊢
    omega
  · intro a b
    simp only [spanLe, Bool.or_eq_true, decide_eq_true_eq, Bool.and_eq_true, beq_iff_eq]
    omega

theorem sum_ite_nodup (L : Str) (f : Str → Nat) (ls : List Str) (hnd : ls.Nodup) :
    (ls.map fun x => if x = L then f x else 0).sum = if L ∈ ls then f L else 0 := by
  induction ls with
  | nil => rfl
  | cons x t ih =>
    have hnd' := List.nodup_cons.mp hnd
    simp only [List.map_cons, List.sum_cons, ih hnd'.2]
    by_cases hx : x = L
    · subst hx; simp [hnd'.1]
    · have : ¬ L = x := fun e => hx e.symm
      simp [hx, this]

theorem count_getResult (res : List Entry) (L : Str) (sp : Nat × Nat) :
    (getResult res).count L sp = (spansOf L res).count sp := by
  simp only [Sched.count, getResult, List.map_map, Function.comp_def]
  rw [sum_ite_nodup L (fun x => (isort spanLe (spansOf x res)).count sp) _ (nodup_labelsOf res)]
  split
  · exact (isort_perm _ _).count_eq sp
  · rename_i h
    rw [show spansOf L res = [] from List.filterMap_eq_nil_iff.mpr fun e he =>
      if_neg fun e' => h ((mem_labelsOf L res).mpr ⟨e, he, e'⟩)]
    rfl

theorem removeHints_centrifuged (ws : List Str) (cs : List CodeLine) (ok : ∀ c ∈ centrifuged ws cs, (OkCode O) c) :
    (removeHints O) (joinNL ((centrifuged ws cs).map renderCode)) = (stripPy O) (joinNL (plainLines cs)) := by
  rw [removeHints, subHints_lines _ ok, centrifuged_plain]

theorem events_eq (d : Decorated) (L : Str) :
    events d L =
      evsOf L (numbered 1 (centrifuged (sortDedup (wholeLabels d)) (codeLines d))) := by
  rw [eventsFrom_centrifuged L _ (nodup_sortDedup _), events]
  congr 1
  rw [List.contains_eq_mem]
  simp only [mem_sortDedup]

theorem events_mono (d : Decorated) (L : Str) : Mono (events d L) := by
  have hline : ∀ (m : Mark) (i : Nat), (m.ev i).line = i := fun m i => by cases m <;> rfl
  rw [events_eq]
  refine (numbered_sorted _ _).filterMap _ fun a a' hle b hb b' hb' => ?_
  split at hb <;> cases hb
  split at hb' <;> cases hb'
  rwa [hline, hline]

theorem getProgramFrom_decorate (d : Decorated) (r : Str → List SSpan) (hy : (Hyg O) d)
    (hbal : ∀ L, Bal (events d L) (r L)) (hnt : ∀ L, NoTie (events d L)) :
    ∃ p, (getProgramFrom O) (decorate d) = .ok p ∧
      (∀ L sp, p.addition.count L sp = (r L).count (false, sp)) ∧
      (∀ L sp, p.deletion.count L sp = (r L).count (true, sp)) := by
  let ws := sortDedup (wholeLabels d)
  let cs' := centrifuged ws (codeLines d)
  have hws : ∀ L ∈ ws, (Clean O) L := fun L hL => hy.whole L ((mem_sortDedup L _).mp hL)
  have ok' : ∀ c ∈ cs', (OkCode O) c := okCode_centrifuged ws hws _ hy.ok hy.first hy.last
  have hcent := centrifugate_decorate d hy
  have hne' : cs'.map renderCode ≠ [] := by
    intro e
    have h1 : plainLines cs' = plainLines (codeLines d) := centrifuged_plain ws _
    have h2 : cs' = [] := by simpa using e
    rw [h2] at h1
    exact hy.ne (by simpa [plainLines] using h1.symm)
  have hsplit : splitNL (joinNL (cs'.map renderCode)) = cs'.map renderCode :=
    splitNL_joinNL _ hne' (List.forall_mem_map.mpr fun c hc => renderCode_noNL c (ok' c hc))
  have hclean : ∀ p ∈ numbered 1 cs', (Clean O) p.2.label := by
    intro p hp
    obtain ⟨-, c, hc, hh⟩ := mem_numbered hp
    exact (ok' c hc).clean _ hh
  have hrun : (runToks O) {} ((numberedTokens O) 1 (splitNL (joinNL (cs'.map renderCode)))) = runH {} (numbered 1 cs') := by
    rw [hsplit, numberedTokens_render 1 cs' ok', runToks_render _ _ hclean]
  have hproj0 : ∀ L, proj L ({} : Bufs) = ({} : St1) := fun L => rfl
  have hlab : ∀ L, run1 (proj L {}) (evsOf L (numbered 1 cs')) =
      .ok { sa := [], sd := [], ra := adds (r L), rd := dels (r L) } := by
    intro L
    rw [← events_eq d L, hproj0]
    have := run1_bal (hbal L) {} (events_mono d L) (hnt L) ⟨by simp, by simp⟩
    simpa using this
  obtain ⟨st', hst', hp⟩ := runH_of_labels (numbered 1 cs') {} _ hlab
  have hsa : st'.add.stack = [] := stack_nil_of_linesOf _ (fun L => by have := hp L; simpa [proj] using congrArg St1.sa this)
  have hsd : st'.del.stack = [] := stack_nil_of_linesOf _ (fun L => by have := hp L; simpa [proj] using congrArg St1.sd this)
  have hcollect : (collectHints O) (joinNL (cs'.map renderCode)) =
      .ok (getResult st'.add.result, getResult st'.del.result) := by
    simp [collectHints, collectToks, hrun, hst', finish, hsa, hsd]
  refine ⟨⟨(removeHints O) (joinNL (cs'.map renderCode)), getResult st'.add.result, getResult st'.del.result⟩,
    ?_, ?_, ?_⟩
  · have hc2 := hcollect
    simp only [cs', ws] at hc2
    simp only [getProgramFrom, hcent, hc2]
    rfl
  · intro L sp
    show (getResult st'.add.result).count L sp = _
    rw [count_getResult, show spansOf L st'.add.result = adds (r L) from congrArg St1.ra (hp L)]
    exact count_sign false _ _
  · intro L sp
    show (getResult st'.del.result).count L sp = _
    rw [count_getResult, show spansOf L st'.del.result = dels (r L) from congrArg St1.rd (hp L)]
    exact count_sign true _ _

end Paroxy.Hints
