/-
What `Taxonomy.to_taxa` hands to `deduplicated_taxa`: `sorted(acc.items())` is strictly sorted by
name and its bags are dicts with positive counts — the hypotheses of the C10 clause theorems other
than the cleanliness of the names (which is a property of the taxonomy). Also: which keys the
accumulator has.
-/
import Paroxy.Spec.Taxonomy
import Paroxy.Spec.Dedup
import Paroxy.Proofs.Bag
import Paroxy.Proofs.Taxonomy
namespace Paroxy.ToTaxa
open Paroxy Paroxy.Taxo Paroxy.Spec.Taxo Paroxy.TaxoProofs
set_option linter.unusedSectionVars false
variable {σ : Type} [DecidableEq σ]

theorem good_updateList (l : List σ) (b : Bag σ) (h : Bag.WF b ∧ ∀ x ∈ b, 0 < x.2) :
    Bag.WF (Bag.updateList b l) ∧ ∀ x ∈ Bag.updateList b l, 0 < x.2 :=
  List.foldlRecOn (motive := fun b => Bag.WF b ∧ ∀ x ∈ b, 0 < x.2) l _ h fun b h s _ => by
    refine ⟨Bag.WF_set h.1 _ _, fun x hx => ?_⟩
    rcases Bag.mem_set hx with rfl | hx
    · have := Bag.count_nonneg (fun x hx => Int.le_of_lt (h.2 x hx)) s
      simp only; omega
    · exact h.2 x hx

def AccOK (acc : List (Str × Bag σ)) : Prop :=
  (acc.map Prod.fst).Nodup ∧ Spec.Dedup.GoodBags acc

theorem accOK_accUpdate {acc : List (Str × Bag σ)} (h : AccOK acc) (t : Str) (spans : List σ) :
    AccOK (accUpdate acc t spans) := by
  unfold accUpdate
  refine ⟨(dset_isUpdate _).nodup_keys h.1 _, fun e he => ?_⟩
  rcases (dset_isUpdate _).mem he with he | ⟨_, rfl⟩
  · exact h.2 e he
  · exact good_updateList _ _ (dget_isLookup.ind (P := fun o => Bag.WF (o.getD []) ∧ ∀ x ∈ o.getD [], 0 < x.2)
      ⟨Bag.WF_nil, nofun⟩ h.2 t)

theorem accOK_accumulate (o : Oracle) (labels : List (Str × List σ)) :
    ∀ (st : State) (acc : List (Str × Bag σ)), AccOK acc → AccOK (accumulate o st acc labels).2 := by
  induction labels with
  | nil => intro st acc h; exact h
  | cons ls rest ih =>
    obtain ⟨L, spans⟩ := ls
    intro st acc h
    simp only [accumulate]
    exact ih _ _ (List.foldlRecOn (motive := AccOK) _ _ h fun acc h n _ => accOK_accUpdate h n spans)

theorem keys_accumulate (o : Oracle) (rows : List Row) (labels : List (Str × List σ)) (t : Str) :
    ∀ (st : State) (acc : List (Str × Bag σ)), MemoOK o rows st →
      (t ∈ (accumulate o st acc labels).2.map Prod.fst
        ↔ t ∈ acc.map Prod.fst ∨ t ∈ rawKeys o rows labels) := by
  induction labels with
  | nil => intro st acc _; simp [accumulate, rawKeys]
  | cons ls rest ih =>
    obtain ⟨L, spans⟩ := ls
    intro st acc h
    obtain ⟨h1, h2⟩ := call_ok o rows st h L
    rw [accumulate, ih _ _ h2, Assoc.mem_keys_foldl (step := fun a t' => accUpdate a t' spans) (key := id)
      (fun acc n => (dset_isUpdate _).mem_keys acc n), List.map_id, h1]
    simp only [rawKeys, List.flatMap_cons, List.mem_append, or_assoc]

theorem sortTaxa_perm (acc : List (Str × Bag σ)) : (sortTaxa acc).Perm acc :=
  List.mergeSort_perm _ _

theorem strictSorted_sortTaxa {acc : List (Str × Bag σ)} (h : (acc.map Prod.fst).Nodup) :
    Spec.Dedup.StrictSorted ((sortTaxa acc).map Prod.fst) := by
  unfold Spec.Dedup.StrictSorted
  rw [List.pairwise_map]
  have hle : (sortTaxa acc).Pairwise fun a b => decide (a.1 ≤ b.1) = true := by
    apply List.pairwise_mergeSort
    · intro a b c hab hbc
      simp only [decide_eq_true_eq] at *
      exact List.le_trans hab hbc
    · intro a b
      rcases List.le_total a.1 b.1 with h | h <;> simp [h]
  have hne : (sortTaxa acc).Pairwise fun a b => a.1 ≠ b.1 := by
    have : ((sortTaxa acc).map Prod.fst).Nodup := ((sortTaxa_perm acc).map Prod.fst).nodup_iff.mpr h
    rw [List.Nodup, List.pairwise_map] at this
    exact this
  refine List.Pairwise.imp ?_ (hle.and hne)
  intro a b ⟨h1, h2⟩
  simp only [decide_eq_true_eq] at h1
  rcases List.le_iff_lt_or_eq.mp h1 with h | h
  · exact h
  · exact absurd h h2

end Paroxy.ToTaxa
