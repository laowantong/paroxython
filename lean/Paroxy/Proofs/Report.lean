/- The structured report: `groupBy` partitions the visible programs by heading (`groupBy_ind`), each group is
sorted, and the `result` log accounts for every program removed (`go_spec`). -/
import Paroxy.Model.Report
import Paroxy.Proofs.Costs
import Paroxy.Proofs.Filter
import Paroxy.Proofs.FilterOrder
namespace Paroxy.Report
open Paroxy Paroxy.Filter Paroxy.Costs

theorem costBucket_contains (c : Rat) (h : 0 ≤ c) : (costBucket c).Contains c := by
  unfold costBucket
  by_cases h0 : c = 0
  · rw [if_pos h0]; exact h0
  rw [if_neg h0]
  by_cases h1 : c < 1 / 4
  · rw [if_pos h1]; exact ⟨Std.lt_of_le_of_ne h (Ne.symm h0), h1⟩
  rw [if_neg h1]
  by_cases h2 : c < 1 / 2
  · rw [if_pos h2]; exact ⟨Rat.not_lt.mp h1, h2⟩
  rw [if_neg h2]
  by_cases h3 : c < 1
  · rw [if_pos h3]; exact ⟨Rat.not_lt.mp h2, h3⟩
  rw [if_neg h3]
  -- `1 ≤ c`: with `n = ⌊c⌋ ≥ 1` and `m = 2 ^ log2 n`, `m ≤ n < 2 * m`
  have hfl : (1 : Int) ≤ c.floor := Rat.le_floor_iff.mpr (Rat.not_lt.mp h3)
  generalize hn : c.floor.toNat = n
  have lo := Nat.log2_self_le (show n ≠ 0 by omega)
  have hi := @Nat.lt_log2_self n
  rw [Nat.pow_succ] at hi
  generalize 2 ^ n.log2 = m at lo hi
  exact ⟨Rat.le_floor_iff.mp (show ((m : Nat) : Int) ≤ c.floor by omega),
    Rat.floor_lt_iff.mp (show c.floor < ((2 * m : Nat) : Int) by omega)⟩

theorem insertGroup_spec {κ α} [DecidableEq κ] (key : α → κ) (g : List (κ × List α)) (a : α)
    (hkey : ∀ p ∈ g, ∀ x ∈ p.2, key x = p.1) :
    (∀ p ∈ insertGroup g (key a) a, ∀ x ∈ p.2, key x = p.1) ∧
    ((insertGroup g (key a) a).flatMap (·.2)).Perm (g.flatMap (·.2) ++ [a]) := by
  induction g with
  | nil => simp [insertGroup]
  | cons q t ih =>
    obtain ⟨k', l⟩ := q
    rw [List.forall_mem_cons] at hkey
    obtain ⟨ih1, ih2⟩ := ih hkey.2
    unfold insertGroup
    by_cases hk : k' = key a
    · rw [if_pos hk]
      refine ⟨List.forall_mem_cons.mpr ⟨fun x hx => ?_, hkey.2⟩, ?_⟩
      · rcases List.mem_append.mp hx with hx | hx
        · exact hkey.1 x hx
        · rw [List.mem_singleton.mp hx]; exact hk.symm
      · simp only [List.flatMap_cons, List.append_assoc]
        exact List.Perm.append_left l List.perm_append_comm
    · rw [if_neg hk]
      refine ⟨List.forall_mem_cons.mpr ⟨hkey.1, ih1⟩, ?_⟩
      simp only [List.flatMap_cons, List.append_assoc]
      exact List.Perm.append_left l ih2

theorem groupBy_ind {κ α} [DecidableEq κ] (key : α → κ) {P : List α → List (κ × List α) → Prop} (h0 : P [] [])
    (hs : ∀ l g a, P l g → P (l ++ [a]) (insertGroup g (key a) a)) (l : List α) : P l (groupBy key l) := by
  have gen : ∀ (l pre : List α) (g : List (κ × List α)), P pre g →
      P (pre ++ l) (l.foldl (fun g a => insertGroup g (key a) a) g) := by
    intro l
    induction l with
    | nil => intro pre g h; rw [List.append_nil]; exact h
    | cons a t ih =>
      intro pre g h
      rw [List.foldl_cons, List.append_cons]
      exact ih _ _ (hs pre g a h)
  exact gen l [] [] h0

theorem groupBy_spec {κ α} [DecidableEq κ] (key : α → κ) (l : List α) :
    (∀ p ∈ groupBy key l, ∀ x ∈ p.2, key x = p.1) ∧ ((groupBy key l).flatMap (·.2)).Perm l := by
  refine groupBy_ind key (P := fun l g => (∀ p ∈ g, ∀ x ∈ p.2, key x = p.1) ∧ (g.flatMap (·.2)).Perm l)
    ⟨fun _ h => (nomatch h), .nil⟩ (fun l g a h => ?_) l
  obtain ⟨s1, s2⟩ := insertGroup_spec key g a h.1
  exact ⟨s1, s2.trans (List.Perm.append_right [a] h.2)⟩

theorem mapM_some_all2 {α β} {f : α → Option β} {l : List α} {r : List β} (h : l.mapM f = some r) :
    All2 (fun a b => f a = some b) l r := by
  induction l generalizing r with
  | nil => cases h; exact .nil
  | cons a t ih =>
    rw [mapM_cons_option] at h
    obtain ⟨b, hb, h⟩ := Option.bind_eq_some_iff.mp h
    obtain ⟨bs, hbs, rfl⟩ := Option.map_eq_some_iff.mp h
    exact .cons hb (ih hbs)

theorem body_eq (i : Input) : body i = (groupBy (groupKey i) (visible i)).mapM (groupSections i) := rfl

theorem groupSections_spec (i : Input) (g : Bucket × List (Rat × Codes)) (r : Bucket × List Section)
    (h : groupSections i g = some r) :
    r.1 = g.1 ∧ r.2.map (fun s => (s.cost, s.path)) = g.2.mergeSort (leMember i.sorting i.sloc) ∧
    ∀ s ∈ r.2, ∃ rec, dictGet? i.programs s.path = some rec ∧
      s.rows = rowsOf i.strat i.knowledge i.hiddenTaxa rec := by
  have sec : ∀ cp s, sectionOf i cp = some s → (s.cost, s.path) = cp ∧
      ∃ rec, dictGet? i.programs s.path = some rec ∧ s.rows = rowsOf i.strat i.knowledge i.hiddenTaxa rec := by
    intro cp s hs
    obtain ⟨rec, hd, rfl⟩ := Option.map_eq_some_iff.mp hs
    exact ⟨rfl, rec, hd, rfl⟩
  obtain ⟨secs, hm, rfl⟩ := Option.map_eq_some_iff.mp h
  have ha := mapM_some_all2 hm
  refine ⟨rfl, (ha.map_eq (g := id) fun cp s hs => (sec cp s hs).1).trans (List.map_id _), fun s hs => ?_⟩
  obtain ⟨cp, _, hcp⟩ := ha.mem_right hs
  exact (sec cp s hcp).2

theorem all2_flatMap_perm {α β γ} {R : α → β → Prop} {l : List α} {r : List β} (f : α → List γ) (g : β → List γ)
    (h : All2 R l r) (hR : ∀ a b, R a b → (g b).Perm (f a)) : (r.flatMap g).Perm (l.flatMap f) := by
  induction h with
  | nil => simp
  | cons hab _ ih => simp only [List.flatMap_cons]; exact List.Perm.append (hR _ _ hab) ih

theorem leMember_trans (sorting : Sorting) (sloc : Codes → Nat) (a b c : Rat × Codes)
    (h1 : leMember sorting sloc a b = true) (h2 : leMember sorting sloc b c = true) :
    leMember sorting sloc a c = true := by
  cases sorting with
  | byCostAndSloc => exact lex_trans (le := fun x y => sloc x ≤ sloc y) (fun _ _ _ => Nat.le_trans) a b c h1 h2
  | lexicographic =>
    simp only [leMember, decide_eq_true_eq] at *
    exact List.le_trans h1 h2

theorem leMember_total (sorting : Sorting) (sloc : Codes → Nat) (a b : Rat × Codes) :
    (leMember sorting sloc a b || leMember sorting sloc b a) = true := by
  cases sorting with
  | byCostAndSloc => exact lex_total (le := fun x y => sloc x ≤ sloc y) (fun _ _ => Nat.le_total _ _) a b
  | lexicographic =>
    simp only [leMember, Bool.or_eq_true, decide_eq_true_eq]
    exact List.le_total a.2 b.2

theorem body_spec (i : Input) (b : List (Bucket × List Section)) (h : body i = some b) :
    ((b.flatMap fun g => g.2.map fun s => (s.cost, s.path)).Perm (visible i)) ∧
    (∀ g ∈ b, ∀ s ∈ g.2, groupKey i (s.cost, s.path) = g.1 ∧
      ∃ rec, dictGet? i.programs s.path = some rec ∧ s.rows = rowsOf i.strat i.knowledge i.hiddenTaxa rec) ∧
    (∀ g ∈ b, (g.2.map fun s => (s.cost, s.path)).Pairwise fun x y => leMember i.sorting i.sloc x y = true) := by
  rw [body_eq] at h
  have ha := mapM_some_all2 h
  obtain ⟨gk, gp⟩ := groupBy_spec (groupKey i) (visible i)
  refine ⟨?_, ?_, ?_⟩
  · refine (all2_flatMap_perm (fun g => g.2) (fun g => g.2.map fun s => (s.cost, s.path)) ha ?_).trans gp
    intro g r hr
    rw [(groupSections_spec i g r hr).2.1]
    exact List.mergeSort_perm _ _
  · intro r hr s hs
    obtain ⟨g, hg, hgr⟩ := ha.mem_right hr
    obtain ⟨e1, e2, e3⟩ := groupSections_spec i g r hgr
    have hm : (s.cost, s.path) ∈ r.2.map (fun s => (s.cost, s.path)) := List.mem_map_of_mem hs
    rw [e2, (List.mergeSort_perm _ _).mem_iff] at hm
    exact ⟨e1 ▸ gk g hg _ hm, e3 s hs⟩
  · intro r hr
    obtain ⟨g, _, hgr⟩ := ha.mem_right hr
    rw [(groupSections_spec i g r hgr).2.1]
    exact List.pairwise_mergeSort (leMember_trans i.sorting i.sloc) (leMember_total i.sorting i.sloc) _

theorem section_assessed (i : Input) (b : List (Bucket × List Section)) (h : body i = some b)
    (g : Bucket × List Section) (hgm : g ∈ b) (s : Section) (hs : s ∈ g.2) : (s.cost, s.path) ∈ i.assessed :=
  (List.mem_filter.mp ((body_spec i b h).1.mem_iff.mp
    (List.mem_flatMap.mpr ⟨g, hgm, List.mem_map_of_mem hs⟩))).1

theorem mem_rowsOf (strat : Strategy) (K hidden : List Codes) (rec : TaxaSpans) (r : Row) :
    r ∈ rowsOf strat K hidden rec ↔
      (r.taxon, r.spans) ∈ rec ∧ r.taxon ∉ hidden ∧ r.cost = taxonCost strat K r.taxon := by
  unfold rowsOf
  simp only [List.mem_map, List.mem_filter, Bool.not_eq_true', Filter.contains_false_iff]
  constructor
  · rintro ⟨ts, ⟨hm, hh⟩, rfl⟩
    exact ⟨(List.mergeSort_perm _ _).mem_iff.mp hm, hh, rfl⟩
  · rintro ⟨hm, hh, hc⟩
    refine ⟨(r.taxon, r.spans), ⟨(List.mergeSort_perm _ _).mem_iff.mpr hm, hh⟩, ?_⟩
    cases r; simp_all

def removedTotal (log : List LogEntry) : Nat := (log.map (·.removed.length)).sum

theorem removedTotal_append (a b : List LogEntry) : removedTotal (a ++ b) = removedTotal a + removedTotal b := by
  simp [removedTotal, List.sum_append]

theorem summary_spec (n : Nat) (log : List LogEntry) :
    summary n log = (List.range log.length).map fun k =>
      (((n : Int) - (removedTotal (log.take (k + 1)) : Nat)), (log[k]?.getD default).index,
        (log[k]?.getD default).op, (log[k]?.getD default).removed.length) := by
  unfold summary
  -- from any count `m` reached and any lines `acc` written so far
  suffices ∀ (log : List LogEntry) (m : Int) (acc : List (Int × Nat × Operation × Nat)),
      (log.foldl (fun (acc : Int × List (Int × Nat × Operation × Nat)) e =>
        (acc.1 - e.removed.length, acc.2 ++ [(acc.1 - e.removed.length, e.index, e.op, e.removed.length)]))
        (m, acc)).2 = acc ++ (List.range log.length).map fun k =>
          (m - (removedTotal (log.take (k + 1)) : Nat), (log[k]?.getD default).index,
            (log[k]?.getD default).op, (log[k]?.getD default).removed.length) by
    simpa using this log n []
  intro log
  induction log with
  | nil => intro m acc; simp
  | cons e t ih =>
    intro m acc
    rw [List.foldl_cons, ih]
    -- index shift: line `0` of `e :: t` is the line just written; line `k + 1` is line `k` of `t` counted from
    -- `m - |e.removed|`, and `take (k + 2)` of `e :: t` removes `|e.removed|` more than `take (k + 1)` of `t`
    simp only [List.length_cons, List.range_succ_eq_map, List.map_cons, List.map_map, List.append_assoc,
      List.singleton_append, List.take_succ_cons, removedTotal, List.sum_cons, List.take_zero, List.map_nil,
      List.sum_nil, Function.comp_def, List.getElem?_cons_succ, List.getElem?_cons_zero, Option.getD_some, Nat.succ_eq_add_one,
      Int.natCast_add, Int.sub_sub, Int.natCast_zero, Int.add_zero]

theorem filter_not_mem_length (current sel : List Codes) (keep : Codes → Bool) (h : sel = current.filter keep) :
    (current.filter fun p => !sel.contains p).length + sel.length = current.length := by
  subst h
  rw [List.filter_congr (q := fun p => !keep p) fun x hx => by
    cases hk : keep x <;> simp [List.mem_filter, hk, hx]]
  induction current with
  | nil => rfl
  | cons a t ih => cases hk : keep a <;> simp [hk] <;> omega

theorem go_cons {c : Ctx} {r : Relations} {st : State} {cur : List Codes} {idx : Nat} {cmd : Command}
    {t : List Command} {log : List LogEntry} {res : State × List LogEntry}
    (h : runLogged.go c r st cur idx (cmd :: t) log = .ok res) :
    (runCommand c r st cmd = .ok st ∧ runLogged.go c r st cur (idx + 1) t log = .ok res) ∨
    ∃ op q sm, runCommand c r st cmd = .ok sm ∧ updateFilter c r st cmd.data op q = .ok sm ∧
      runLogged.go c r sm sm.selected (idx + 1) t (log ++
        [⟨idx, op, cur.filter fun p => !sm.selected.contains p, sm.selected.length⟩]) = .ok res := by
  unfold runLogged.go at h
  unfold runCommand
  cases hp : parseOperation cmd.operation with
  | none => rw [hp] at h; exact Or.inl ⟨rfl, h⟩
  | some v =>
    obtain ⟨op, q⟩ := v
    rw [hp] at h
    by_cases hd : cmd.data.isEmpty = true
    · simp only [hd, if_true] at h ⊢
      exact Or.inl ⟨trivial, h⟩
    · simp only [hd, Bool.false_eq_true, if_false] at h ⊢
      cases hu : updateFilter c r st cmd.data op q with
      | error e => rw [hu] at h; cases h
      | ok sm => rw [hu] at h; exact Or.inr ⟨op, q, sm, rfl, hu, h⟩

/-- Invariant of the `result` log: with `N` programs initially, after every logged command the
number the summary announces (`N` minus everything removed so far) is the size of the selection
right after that command. -/
theorem go_spec (c : Ctx) (r : Relations) (N : Nat) (cmds : List Command) :
    ∀ (st : State) (idx : Nat) (log : List LogEntry) (st' : State) (log' : List LogEntry),
      runLogged.go c r st st.selected idx cmds log = .ok (st', log') →
      (N : Int) - (removedTotal log : Nat) = st.selected.length →
      (∀ k (hk : k < log.length), (N : Int) - (removedTotal (log.take (k + 1)) : Nat) = log[k].selectedAfter) →
      ((N : Int) - (removedTotal log' : Nat) = st'.selected.length) ∧
      (∀ k (hk : k < log'.length), (N : Int) - (removedTotal (log'.take (k + 1)) : Nat) = log'[k].selectedAfter) := by
  induction cmds with
  | nil =>
    intro st idx log st' log' h h1 h2
    cases h
    exact ⟨h1, h2⟩
  | cons cmd t ih =>
    intro st idx log st' log' h h1 h2
    rcases go_cons h with ⟨_, h'⟩ | ⟨op, q, sm, _, hu, h'⟩
    · exact ih st (idx + 1) log st' log' h' h1 h2
    · -- the entry logged accounts for the programs removed
      have hlen : (st.selected.filter fun p => !sm.selected.contains p).length + sm.selected.length =
          st.selected.length := by
        rw [updateFilter_effect] at hu
        cases he : effectOf c r cmd.data op q with
        | error e => rw [he] at hu; cases hu
        | ok eff => rw [he] at hu; cases hu; exact filter_not_mem_length st.selected _ eff.keep rfl
      generalize hE : (⟨idx, op, st.selected.filter fun p => !sm.selected.contains p, sm.selected.length⟩ :
        LogEntry) = E at h'
      have hE1 : E.removed.length + E.selectedAfter = st.selected.length := hE ▸ hlen
      have hE2 : E.selectedAfter = sm.selected.length := hE ▸ rfl
      have last : (N : Int) - (removedTotal (log ++ [E]) : Nat) = sm.selected.length := by
        rw [removedTotal_append]
        simp only [removedTotal, List.map_cons, List.map_nil, List.sum_cons, List.sum_nil] at h1 ⊢
        omega
      refine ih sm (idx + 1) _ st' log' h' last fun k hk => ?_
      rw [List.length_append, List.length_singleton] at hk
      rcases Nat.lt_or_ge k log.length with hlt | hge
      · rw [List.take_append_of_le_length (by omega), List.getElem_append_left hlt]
        exact h2 k hlt
      · obtain rfl : k = log.length := by omega
        rw [List.take_of_length_le (by simp), List.getElem_concat_length rfl, hE2]
        exact last

end Paroxy.Report
