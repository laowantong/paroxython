/-
The `whole_span` matcher on the dump of a tree. Its two scans only stop where `_pos=`
starts; on a `key=value` line that is at the end of the key, so only position lines count.
-/
import Paroxy.Proofs.NodeSpanTree
import Paroxy.Model.WholeSpan
namespace Paroxy.Flat

/-- Where `_pos=` starts, the text is `_pos`, a `=` and a rest. -/
theorem not_posEq_prefix {l : Str} (h : ∀ r, l ≠ posKey ++ '=' :: r) : (cs!"_pos=").isPrefixOf l = false :=
  Bool.eq_false_iff.mpr fun hb => let ⟨r, hr⟩ := List.isPrefixOf_iff_prefix.mp hb; h r hr.symm

section Scan
/- The two scans of a line for `_pos=` (`firstWholePosFrom`, `lastWholePosFrom`) pass over a position where
`_pos=` does not start. That is all the following needs of them. -/
variable {α : Type} (F : Nat → Str → Option α) (hnil : ∀ seen, F seen [] = none)
  (hskip : ∀ seen c t, (cs!"_pos=").isPrefixOf (c :: t) = false → F seen (c :: t) = F (seen + 1) t)
include hnil hskip

/-- On a line with a single `=`, the only place where `_pos=` can start is four characters before the `=`. -/
theorem scan_keyval : ∀ (K V : Str) (seen : Nat), '=' ∉ K → '=' ∉ V →
    F seen (K ++ '=' :: V) = if posKey <:+ K then F (seen + K.length - 4) (posKey ++ '=' :: V) else none
  | [], V, seen, _, hV => by
    rw [if_neg (by decide), List.nil_append, hskip _ _ _ rfl]
    -- no `=` is left: `_pos=` starts nowhere in `V`
    generalize seen + 1 = k
    induction V generalizing k with
    | nil => exact hnil k
    | cons c t ih =>
      rw [hskip _ _ _ (not_posEq_prefix fun r hr => hV (hr ▸ by simp))]
      exact ih (fun e => hV (List.mem_cons_of_mem _ e)) _
  | c :: K, V, seen, hK, hV => by
    by_cases hkey : c :: K = posKey
    · rw [hkey, if_pos (List.suffix_refl _)]; rfl
    · -- `_pos=` does not start here: the first `=` would be that of the line, and the key `_pos`
      have hp : (cs!"_pos=").isPrefixOf (c :: (K ++ '=' :: V)) = false :=
        not_posEq_prefix fun r hr => hkey (split_first_unique hK (by decide) hr).1
      have hsuf : posKey <:+ c :: K ↔ posKey <:+ K := by
        rw [List.suffix_cons_iff]
        exact ⟨fun e => e.resolve_left (fun e' => hkey e'.symm), Or.inr⟩
      have hlen : seen + 1 + K.length - 4 = seen + (c :: K).length - 4 := by simp; omega
      rw [List.cons_append, hskip _ _ _ hp,
        scan_keyval K V (seen + 1) (fun e => hK (List.mem_cons_of_mem _ e)) hV, hlen]
      simp only [hsuf]
/-- What a scan gives on `K=V` once it is known what it does where `_pos=` starts (`hhit`, in which the
scan of the rest `pos=V` gives nothing). -/
theorem scan_keyval_hit {r : Str → Option α}
    (hhit : ∀ k V, F (k + 1) (cs!"pos" ++ '=' :: V) = none → F k (posKey ++ '=' :: V) = if 1 ≤ k then r V else none)
    (K V : Str) (seen : Nat) (hK : '=' ∉ K) (hV : '=' ∉ V) :
    F seen (K ++ '=' :: V) = if posKey <:+ K ∧ 1 ≤ seen + K.length - 4 then r V else none := by
  have hrest : ∀ k, F k (cs!"pos" ++ '=' :: V) = none := fun k => by
    rw [scan_keyval F hnil hskip _ V k (by decide) hV, if_neg (by decide)]
  rw [scan_keyval F hnil hskip K V seen hK hV]
  by_cases hs : posKey <:+ K
  · rw [if_pos hs, hhit _ _ (hrest _)]
    simp only [hs, true_and]
  · rw [if_neg hs, if_neg (fun h => hs h.1)]

end Scan

/-- First-POS scan of a line with a single `=`: only a key ending with `_pos`, met at an index ≥ 1,
can give something — the cut of the value. -/
theorem firstWholePosFrom_keyval (K V : Str) (seen : Nat) (hK : '=' ∉ K) (hV : '=' ∉ V) :
    firstWholePosFrom seen (K ++ '=' :: V) =
      if posKey <:+ K ∧ 1 ≤ seen + K.length - 4 then cutLastColon V else none := by
  refine scan_keyval_hit firstWholePosFrom (fun _ => rfl) (fun seen c t h => by simp [firstWholePosFrom, h])
    (fun k V hrest => ?_) K V seen hK hV
  have e : posKey ++ '=' :: V = '_' :: (cs!"pos" ++ '=' :: V) := rfl
  rw [e, firstWholePosFrom, hrest]
  by_cases h1 : 1 ≤ k <;> simp [h1]
  cases cutLastColon V <;> rfl

theorem lastWholePosFrom_keyval (K V : Str) (seen : Nat) (hK : '=' ∉ K) (hV : '=' ∉ V) :
    lastWholePosFrom seen (K ++ '=' :: V) =
      if posKey <:+ K ∧ 1 ≤ seen + K.length - 4 then (digitsColon? V).map fun d => (V, d) else none := by
  have hskip : ∀ seen c t, (cs!"_pos=").isPrefixOf (c :: t) = false →
      lastWholePosFrom seen (c :: t) = lastWholePosFrom (seen + 1) t := by
    intro seen c t h
    simp only [lastWholePosFrom, h, Bool.and_false, Bool.false_eq_true, if_false]
    cases lastWholePosFrom (seen + 1) t <;> rfl
  refine scan_keyval_hit lastWholePosFrom (fun _ => rfl) hskip
    (r := fun V => (digitsColon? V).map fun d => (V, d)) (fun k V hrest => ?_) K V seen hK hV
  have e : posKey ++ '=' :: V = '_' :: (cs!"pos" ++ '=' :: V) := rfl
  rw [e, lastWholePosFrom, hrest]
  by_cases h1 : 1 ≤ k <;> simp [h1]

theorem colon_index (D Q : Str) (i : Nat) (hD : ':' ∉ D) (hQ : ':' ∉ Q) (h : (D ++ ':' :: Q)[i]? = some ':') :
    i = D.length := by
  rcases Nat.lt_trichotomy i D.length with hi | hi | hi
  · rw [List.getElem?_append_left hi] at h
    exact absurd (List.mem_of_getElem? h) hD
  · exact hi
  · obtain ⟨k, hk⟩ : ∃ k, i - D.length = k + 1 := ⟨i - D.length - 1, by omega⟩
    rw [List.getElem?_append_right (Nat.le_of_lt hi), hk, List.getElem?_cons_succ] at h
    exact absurd (List.mem_of_getElem? h) hQ

/-- `(.+:).+` on a text with a single colon, something before and something after it. -/
theorem cutLastColon_single {D Q : Str} (hD : ':' ∉ D) (hQ : ':' ∉ Q) (hD0 : D ≠ []) (hQ0 : Q ≠ []) :
    cutLastColon (D ++ ':' :: Q) = some (D ++ [':']) := by
  have hlenD : 0 < D.length := List.length_pos_iff.mpr hD0
  have hlenQ : 0 < Q.length := List.length_pos_iff.mpr hQ0
  -- the only admissible index is the length of `D`: it is admissible, and every candidate is at a colon
  have hlast : ∀ cands : List Nat, D.length ∈ cands → (∀ x ∈ cands, (D ++ ':' :: Q).getD x ' ' = ':') →
      cands.getLast? = some D.length := by
    intro cands hmem hall
    cases hq : cands.getLast? with
    | none => rw [List.getLast?_eq_none_iff.mp hq] at hmem; cases hmem
    | some x =>
      have hx := hall x (List.mem_of_getLast? hq)
      rw [List.getD_eq_getElem?_getD] at hx
      have hx' : (D ++ ':' :: Q)[x]? = some ':' := by
        cases hc : (D ++ ':' :: Q)[x]? with
        | none => rw [hc] at hx; exact absurd hx (by decide)
        | some c => rw [hc] at hx; exact congrArg some hx
      rw [colon_index D Q x hD hQ hx']
  unfold cutLastColon
  dsimp only
  rw [hlast _ (List.mem_filter.mpr ⟨List.mem_range.mpr (by simp), by simp; omega⟩)
    (fun x hx => by simpa using (Bool.and_eq_true_iff.mp (Bool.and_eq_true_iff.mp (List.mem_filter.mp hx).2).1).1)]
  have e : D ++ ':' :: Q = (D ++ [':']) ++ Q := by simp
  dsimp only
  rw [e, List.take_left' (by simp)]

/-- `<digits>:<something>` on digits, a colon and something. -/
theorem digitsColon_digits {D Q : Str} (hD : ∀ c ∈ D, isDigitC c = true) (hD0 : D ≠ []) (hQ0 : Q ≠ []) :
    digitsColon? (D ++ ':' :: Q) = some D := by
  have htw : (D ++ ':' :: Q).takeWhile isDigitC = D := by
    rw [List.takeWhile_append_of_pos hD]; exact List.append_nil D
  unfold digitsColon?
  simp only [htw, List.drop_left]
  cases D with
  | nil => exact absurd rfl hD0
  | cons _ _ =>
    cases Q with
    | nil => exact absurd rfl hQ0
    | cons _ _ => rfl

theorem whole_lines_unpositioned (h : Str → Str) (hh : HashNoEq h) (e : Entry) (hok : e.ok3 = true)
    (hp : e.posOf = none) : ∀ l ∈ e.lines h, l ≠ [] ∧ firstWholePos? l = none ∧ lastWholePos? l = none := by
  intro l hl
  obtain ⟨lit, V, hk, rfl⟩ := mem_entry_lines hl
  refine ⟨by simp, ?_⟩
  obtain ⟨hok2, hok3⟩ := Bool.and_eq_true_iff.mp hok
  have hok1 := Entry.ok_of_ok2 hok2
  have hpre := Entry.ok_pre hok1
  have marker : posKey.length ≤ lit.length → ¬ posKey <:+ lit → '=' ∉ lit → '=' ∉ V →
      firstWholePos? ((encNames e.names ++ lit) ++ '=' :: V) = none ∧
        lastWholePos? ((encNames e.names ++ lit) ++ '=' :: V) = none := by
    intro hlen hne hlit hV
    have hK := not_mem_append_lit hpre hlit
    have hns : ¬ posKey <:+ encNames e.names ++ lit := fun hs =>
      hne (List.suffix_of_suffix_length_le hs (List.suffix_append _ _) hlen)
    constructor
    · unfold firstWholePos?; rw [firstWholePosFrom_keyval _ _ 0 hK hV, if_neg (fun hc => hns hc.1)]
    · unfold lastWholePos?; rw [lastWholePosFrom_keyval _ _ 0 hK hV, if_neg (fun hc => hns hc.1)]
  cases hk with
  | type hi =>
    have : '=' ∉ encNames e.names ∧ '=' ∉ V ∧ V ≠ [] := by simpa [Entry.ok, hi] using hok1
    exact marker (by decide) (by decide) (by decide) this.2.1
  | hash hi => exact marker (by decide) (by decide) (by decide) (hh _)
  | length hi => exact marker (by decide) (by decide) (by decide) (eq_not_mem_dec _)
  | pos hi => simp [Entry.posOf, hi] at hp
  | scalar hi =>
    simp only [hi, Bool.and_eq_true, Option.isNone_iff_eq_none, scalarLine] at hok3
    simpa using hok3

/-- What the two scans of `whole_span` find on the lines of an entry: nothing, except on the position
line — the last line — of a positioned node. -/
theorem whole_entry_lines (h : Str → Str) (hh : HashNoEq h) (e : Entry) (hok : e.ok3 = true) :
    match e.posOf with
    | none => ∀ l ∈ e.lines h, l ≠ [] ∧ firstWholePos? l = none ∧ lastWholePos? l = none
    | some (n, a) => ∃ A L, e.lines h = A ++ [L] ∧
        (∀ l ∈ A, l ≠ [] ∧ firstWholePos? l = none ∧ lastWholePos? l = none) ∧ L ≠ [] ∧
        firstWholePos? L = some (dec n ++ [':']) ∧ lastWholePos? L = some (posText n a, dec n) := by
  obtain ⟨addr, names, item⟩ := e
  cases item with
  | node ty isE r ln =>
    cases ln with
    | none => exact whole_lines_unpositioned h hh _ hok rfl
    | some n =>
      -- the lines before the position line are those of the same node without its line number
      have hok' : (⟨addr, names, .node ty isE r none⟩ : Entry).ok3 = true := by
        simp only [Entry.ok3, Entry.ok2, Entry.ok, Bool.and_eq_true] at hok ⊢
        exact ⟨hok.1, trivial⟩
      have hpre : '=' ∉ encNames names := Entry.ok_pre (Entry.ok_of_ok2 (Bool.and_eq_true_iff.mp hok').1)
      have hp : posPath addr ≠ [] := by
        simp only [Entry.ok3, Bool.and_eq_true, Bool.not_eq_true', List.isEmpty_eq_false_iff] at hok; exact hok.2
      have e3 := posLine_eq (encNames names) n addr
      have hK := not_mem_append_lit hpre (by decide : '=' ∉ cs!"/_pos")
      have hV : '=' ∉ posText n addr := not_mem_posText rfl (by decide) (by decide) n addr
      have hs : posKey <:+ encNames names ++ cs!"/_pos" ∧ 1 ≤ 0 + (encNames names ++ cs!"/_pos").length - 4 :=
        ⟨⟨encNames names ++ cs!"/", by simp [posKey]⟩, by simp⟩
      refine ⟨Entry.lines h ⟨addr, names, .node ty isE r none⟩, posLine (encNames names) n (encPath addr),
        by simp [Entry.lines], whole_lines_unpositioned h hh _ hok' rfl, by simp [posLine], ?_, ?_⟩
      · unfold firstWholePos?
        rw [e3, firstWholePosFrom_keyval _ _ 0 hK hV, if_pos hs]
        exact cutLastColon_single (colon_not_mem_dec n) (colon_not_mem_posPath addr) (dec_ne_nil n) hp
      · unfold lastWholePos?
        rw [e3, lastWholePosFrom_keyval _ _ 0 hK hV, if_pos hs, posText,
          digitsColon_digits (fun c => List.all_eq_true.mp (all_isDigitC_dec n) c) (dec_ne_nil n) hp]
        rfl
  | list q k => exact whole_lines_unpositioned h hh _ hok rfl
  | scalar r => exact whole_lines_unpositioned h hh _ hok rfl

theorem firstPosSplit_cons (e : Entry) (es : List Entry) :
    firstPosSplit (e :: es) = match e.posOf with
      | some p => some (p.1, es)
      | none => firstPosSplit es := by
  obtain ⟨addr, names, item⟩ := e
  cases item with
  | node ty isE r ln => cases ln <;> rfl
  | list q k => rfl
  | scalar r => rfl

theorem findFirstWhole_skip : ∀ (A L : List Str), (∀ l ∈ A, l ≠ [] ∧ firstWholePos? l = none) →
    findFirstWhole (A ++ L) = findFirstWhole L
  | [], _, _ => rfl
  | a :: A, L, h => by
    have ha := h a (by simp)
    have he : a.isEmpty = false := by simpa using ha.1
    simp only [List.cons_append, findFirstWhole, he, Bool.false_eq_true, if_false, ha.2]
    exact findFirstWhole_skip A L (fun l hl => h l (List.mem_cons_of_mem _ hl))

/-- The lazy part of `whole_span` stops at the position line of the first positioned entry. -/
theorem findFirstWhole_entries (h : Str → Str) (hh : HashNoEq h) : ∀ (es : List Entry),
    (∀ e ∈ es, e.ok3 = true) →
    findFirstWhole (es.flatMap (Entry.lines h)) =
      (firstPosSplit es).map (fun p => (dec p.1 ++ [':'], p.2.flatMap (Entry.lines h)))
  | [], _ => rfl
  | e :: es, hall => by
    have ih := findFirstWhole_entries h hh es (fun x hx => hall x (List.mem_cons_of_mem _ hx))
    have hw := whole_entry_lines h hh e (hall e (by simp))
    rw [List.flatMap_cons, firstPosSplit_cons]
    cases hp : e.posOf with
    | none =>
      rw [hp] at hw
      rw [findFirstWhole_skip _ _ (fun l hl => ⟨(hw l hl).1, (hw l hl).2.1⟩), ih]
    | some p =>
      rw [hp] at hw
      obtain ⟨A, L, hl, hA, hne, hf, _⟩ := hw
      have he : L.isEmpty = false := by simpa using hne
      rw [hl, List.append_assoc, findFirstWhole_skip _ _ (fun l hl' => ⟨(hA l hl').1, (hA l hl').2.1⟩)]
      simp [findFirstWhole, he, hf]

theorem findLastWhole_cons (l : Str) (L : List Str) (hne : l ≠ []) :
    findLastWhole (l :: L) = (findLastWhole L).orElse (fun _ => lastWholePos? l) := by
  have he : l.isEmpty = false := by simpa using hne
  simp only [findLastWhole, he, Bool.false_eq_true, if_false]
  cases findLastWhole L <;> rfl

/-- The greedy part of `whole_span` stops at the position line of the last positioned entry. -/
theorem findLastWhole_entries (h : Str → Str) (hh : HashNoEq h) : ∀ (es : List Entry),
    (∀ e ∈ es, e.ok3 = true) →
    findLastWhole (es.flatMap (Entry.lines h)) =
      (lastPosOfEntries es).map (fun p => (posText p.1 p.2, dec p.1))
  | [], _ => rfl
  | e :: es, hall => by
    have ih := findLastWhole_entries h hh es (fun x hx => hall x (List.mem_cons_of_mem _ hx))
    have hw := whole_entry_lines h hh e (hall e (by simp))
    rw [List.flatMap_cons, lastPosOfEntries_cons]
    cases hp : e.posOf with
    | none =>
      rw [hp] at hw
      rw [run_skip findLastWhole_cons _ _ (fun l hl => ⟨(hw l hl).1, fun _ => (hw l hl).2.2⟩), ih]
      cases lastPosOfEntries es <;> rfl
    | some p =>
      rw [hp] at hw
      obtain ⟨A, L, hl, hA, hne, _, hlast⟩ := hw
      rw [hl, List.append_assoc, List.singleton_append,
        run_last findLastWhole_cons hne hlast A (fun l hl' => (hA l hl').1), ih]
      cases lastPosOfEntries es <;> rfl

theorem firstPosSplit_some_of_ne : ∀ {es : List Entry}, positionedOfEntries es ≠ [] →
    ∃ n rest, firstPosSplit es = some (n, rest)
  | [], h => absurd rfl h
  | ⟨addr, names, item⟩ :: es, h => by
    rcases item with ⟨ty, isE, r, _ | n⟩ | _ | _
    · exact firstPosSplit_some_of_ne (es := es) h
    · exact ⟨n, es, rfl⟩
    · exact firstPosSplit_some_of_ne (es := es) h
    · exact firstPosSplit_some_of_ne (es := es) h

theorem firstPosSplit_subset : ∀ {es : List Entry} {n : Nat} {rest : List Entry},
    firstPosSplit es = some (n, rest) → ∀ e ∈ rest, e ∈ es
  | [], _, _, h => by cases h
  | x :: es, n, rest, h => by
    intro e he
    rw [firstPosSplit_cons] at h
    cases hp : x.posOf with
    | some p =>
      rw [hp] at h
      simp only [Option.some.injEq, Prod.mk.injEq] at h
      rw [← h.2] at he; exact List.mem_cons_of_mem _ he
    | none =>
      rw [hp] at h
      exact List.mem_cons_of_mem _ (firstPosSplit_subset h e he)

theorem wholeSpanMatch_entries (h : Str → Str) (hh : HashNoEq h) (es : List Entry)
    (hall : ∀ e ∈ es, e.ok3 = true) {n1 : Nat} {rest : List Entry} (hs : firstPosSplit es = some (n1, rest)) :
    wholeSpanMatch? (cs!"/_type=Module" :: es.flatMap (Entry.lines h)) =
      some (match lastPosOfEntries rest with
        | some (n2, a2) => ([dec n1 ++ [':'], posText n2 a2], [dec n2])
        | none => ([dec n1 ++ [':']], [])) := by
  have h1 := findFirstWhole_entries h hh es hall
  rw [hs] at h1
  have h2 := findLastWhole_entries h hh rest (fun e he => hall e (firstPosSplit_subset hs e he))
  simp only [wholeSpanMatch?, beq_self_eq_true, if_true, h1, Option.map_some, h2]
  cases lastPosOfEntries rest with
  | none => rfl
  | some p => rfl

/-- The occurrences bound to `whole_span`: none when the pattern does not match, else one, labelled
`whole_span` or `whole_span:<SUFFIX>`, whose span comes from the captured positions. -/
theorem wholeSpanBindings_cases {ls : List Str} {bs : List (Str × SpanP)} (h : wholeSpanBindings? ls = some bs) :
    (wholeSpanMatch? ls = none ∧ bs = []) ∨
      ∃ pos ds s lbl, wholeSpanMatch? ls = some (pos, ds) ∧ posToSpan? pos = some s ∧ bs = [(lbl, s)] ∧
        (lbl = cs!"whole_span" ∨ ∃ d, lbl = cs!"whole_span:" ++ d) := by
  unfold wholeSpanBindings? at h
  split at h
  · exact Or.inl ⟨by assumption, (Option.some.inj h).symm⟩
  · obtain ⟨s, hp, hs⟩ := Option.map_eq_some_iff.mp h
    exact Or.inr ⟨_, _, s, _, by assumption, hp, hs.symm, Or.inl rfl⟩
  · obtain ⟨s, hp, hs⟩ := Option.map_eq_some_iff.mp h
    exact Or.inr ⟨_, _, s, _, by assumption, hp, hs.symm, Or.inr ⟨_, rfl⟩⟩

theorem wholeSpanBindings_ordered {ls : List Str} {bs : List (Str × SpanP)}
    (h : wholeSpanBindings? ls = some bs) : ∀ b ∈ bs, b.2.start ≤ b.2.stop := by
  rcases wholeSpanBindings_cases h with ⟨_, rfl⟩ | ⟨pos, ds, s, lbl, _, hp, rfl, _⟩
  · intro b hb; cases hb
  · intro b hb; rw [List.mem_singleton.mp hb]; exact posToSpan_ordered hp

/-- The first capture of `whole_span` is a line number and a colon, with nothing after it. -/
theorem parsePos_lineColon (n : Nat) : parsePos? (dec n ++ [':']) = some (n, []) :=
  parsePos_dec_colon n List.not_mem_nil

theorem posToSpan_whole (n n' : Nat) (a' : List Nat) :
    posToSpan? [dec n ++ [':'], posText n' a'] = some ⟨min n n', max n n', []⟩ := by
  simp [posToSpan?, parsePos_lineColon, parsePos_posText]

end Paroxy.Flat
