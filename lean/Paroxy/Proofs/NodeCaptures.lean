/-
The matches of the `node` feature on the lines of a list of entries, whatever the
tree they come from and whatever their line numbers.
-/
import Paroxy.Proofs.NodeSpan
import Paroxy.Proofs.FlatEntries
namespace Paroxy.Flat

/-- Every match of a positioned type on the lines of well-formed entries captures the position text of
a positioned entry — the one on whose type line it starts — and possibly, second, that of a positioned
entry that comes later in the list. -/
theorem nodeMatches_entries (h : Str → Str) (hh : HashNoEq h) (hn : HashNoNewline h) (P : Str → Bool) :
    ∀ (es : List Entry), (∀ e ∈ es, e.ok2 = true) → (∀ e ∈ es, e.typed P = true) →
    ∀ m ∈ nodeMatches (es.flatMap (Entry.lines h)), P m.1 = true →
      ∃ n a later, (m.1, n) :: later <:+ positionedOfEntries es ∧
        (m.2 = [posText n a] ∨ ∃ ty' n' a', (ty', n') ∈ later ∧ m.2 = [posText n a, posText n' a'])
  | [], _, _, m, hm, _ => by cases hm
  | e :: es, hok, hty, m, hm, hP => by
    have hok1 := Entry.ok_of_ok2 (hok e (by simp))
    obtain ⟨MS, hMS, hF⟩ := nodeMatches_entry h hh P e hok1 (hty e (by simp)) (es.flatMap (Entry.lines h))
    rw [List.flatMap_cons, hMS] at hm
    rcases List.mem_append.mp hm with hm | hm
    · have hm' := List.mem_filter (p := fun m => P m.1).mpr ⟨hm, hP⟩
      rw [hF, Option.mem_toList, Option.map_eq_some_iff] at hm'
      obtain ⟨s, hs, rfl⟩ := hm'
      obtain ⟨ty, isE, r, n, hi, rfl⟩ := Entry.posStart_eq_some hs
      have hpos : positionedOfEntries (e :: es) = (ty, n) :: positionedOfEntries es := by
        simp [positionedOfEntries, hi]
      refine ⟨n, e.addr, positionedOfEntries es, by rw [hpos]; exact List.suffix_refl _, ?_⟩
      cases hf : findLastPos (encNames e.names) (es.flatMap (Entry.lines h)) with
      | none => exact .inl rfl
      | some p2 =>
        obtain ⟨l, L', hl, hp⟩ := findLastPos_some hf
        obtain ⟨e', he', hl'⟩ := List.mem_flatMap.mp hl
        obtain ⟨ty', isE', r', n', hi', rfl⟩ := lastPos_entry_line h hn e'
          (hok e' (List.mem_cons_of_mem _ he')) L' (Entry.ok_pre hok1) hl' hp
        exact .inr ⟨ty', n', e'.addr, mem_positionedOfEntries he' hi', rfl⟩
    · obtain ⟨n, a, later, hs, hc⟩ := nodeMatches_entries h hh hn P es
        (fun x hx => hok x (List.mem_cons_of_mem _ hx)) (fun x hx => hty x (List.mem_cons_of_mem _ hx)) m hm hP
      exact ⟨n, a, later, hs.trans (positionedOfEntries_suffix_cons e es), hc⟩

/-- The same on the dump of a well-formed tree, for its own positioned types. -/
theorem nodeMatches_dump (t0 t : Val) (hwf : treeOk2 t = true) :
    ∀ m ∈ nodeMatches (dumpP (hashFn t0) [] [] t), (posTypes t).contains m.1 = true →
      ∃ n a later, (m.1, n) :: later <:+ positionedNodes t ∧
        (m.2 = [posText n a] ∨ ∃ ty' n' a', (ty', n') ∈ later ∧ m.2 = [posText n a, posText n' a']) := by
  have hd : dumpP (hashFn t0) [] [] t = (entries [] [] t).flatMap (Entry.lines (hashFn t0)) :=
    dumpP_eq_entries (hashFn t0) [] [] t
  rw [hd]
  exact nodeMatches_entries (hashFn t0) (eq_not_mem_hashFn t0) (hashNoNewline_hashFn t0) _ (entries [] [] t)
    (fun e he => (treeOk2_entries hwf e he).1) (fun e he => (treeOk2_entries hwf e he).2)

end Paroxy.Flat
