/-
Helper lemmas for C12, token level: the two-buffer machine of `collect_hints` seen label by label.
The machine restricted to one label (`step1`: two stacks of line numbers) is simulated by the real one
through `proj`; on properly nested marks (`Bal`) it returns the spans `Bal` names.
-/
import Paroxy.Spec.Hints
namespace Paroxy.Hints

variable {O : CharOracle}

structure St1 where
  sa : List Nat := []
  sd : List Nat := []
  ra : List (Nat × Nat) := []
  rd : List (Nat × Nat) := []
  deriving DecidableEq, Repr

def step1 (st : St1) : Ev → Except Err St1
  | .one false i => .ok { st with ra := st.ra ++ [(i, i)] }
  | .one true i => .ok { st with rd := st.rd ++ [(i, i)] }
  | .opn false i => .ok { st with sa := i :: st.sa }
  | .opn true i => .ok { st with sd := i :: st.sd }
  | .cls j =>
    match st.sa.head?, st.sd.head? with
    | none, none => .error .valueError
    | some x, none => .ok { st with sa := st.sa.tail, ra := st.ra ++ [(x, j)] }
    | none, some y => .ok { st with sd := st.sd.tail, rd := st.rd ++ [(y, j)] }
    | some x, some y =>
      if x < y then .ok { st with sd := st.sd.tail, rd := st.rd ++ [(y, j)] }
      else .ok { st with sa := st.sa.tail, ra := st.ra ++ [(x, j)] }

def run1 : St1 → List Ev → Except Err St1
  | st, [] => .ok st
  | st, e :: w =>
    match step1 st e with
    | .ok st' => run1 st' w
    | .error x => .error x

theorem run1_append_ok {st st' : St1} {a b : List Ev} (h : run1 st a = .ok st') :
    run1 st (a ++ b) = run1 st' b := by
  induction a generalizing st with
  | nil =>
    have : st = st' := by simpa [run1] using h
    subst this; rfl
  | cons e a ih =>
    simp only [run1, List.cons_append] at h ⊢
    split at h
    · exact ih h
    · cases h

def adds (r : List SSpan) : List (Nat × Nat) := r.filterMap fun p => if p.1 = false then some p.2 else none
def dels (r : List SSpan) : List (Nat × Nat) := r.filterMap fun p => if p.1 = true then some p.2 else none

@[simp] theorem adds_nil : adds [] = [] := rfl
@[simp] theorem dels_nil : dels [] = [] := rfl

theorem count_sign (b : Bool) (r : List SSpan) (sp : Nat × Nat) :
    (r.filterMap fun p => if p.1 = b then some p.2 else none).count sp = r.count (b, sp) := by
  induction r with
  | nil => rfl
  | cons x t ih =>
    obtain ⟨b', y⟩ := x
    by_cases hb : b' = b <;> by_cases hy : y = sp <;> simp [ih, hb, hy]

/-- Line numbers never decrease along the marks. -/
def Mono (w : List Ev) : Prop := w.Pairwise fun a b => a.line ≤ b.line

/-- No line opens the label both for addition and for deletion. -/
def NoTie (w : List Ev) : Prop := ∀ i, Ev.opn false i ∈ w → Ev.opn true i ∈ w → False

/-- The entries already on the stacks were opened strictly before every opening of the other sign to come. -/
def Pre (st : St1) (w : List Ev) : Prop :=
  (∀ x ∈ st.sa, ∀ i, Ev.opn true i ∈ w → x < i) ∧ (∀ x ∈ st.sd, ∀ i, Ev.opn false i ∈ w → x < i)

theorem NoTie.sub {w v : List Ev} (h : NoTie w) (hs : ∀ e ∈ v, e ∈ w) : NoTie v :=
  fun i h1 h2 => h i (hs _ h1) (hs _ h2)

theorem Pre.sub {st : St1} {w v : List Ev} (h : Pre st w) (hs : ∀ e ∈ v, e ∈ w) : Pre st v :=
  ⟨fun x hx i hi => h.1 x hx i (hs _ hi), fun x hx i hi => h.2 x hx i (hs _ hi)⟩

theorem step1_cls_add {st : St1} {i : Nat} {t : List Nat} (j : Nat) (hsa : st.sa = i :: t) (h : ∀ y ∈ st.sd, y < i) :
    step1 st (.cls j) = .ok { st with sa := t, ra := st.ra ++ [(i, j)] } := by
  cases hsd : st.sd with
  | nil => simp [step1, hsa, hsd]
  | cons y t' => simp [step1, hsa, hsd, Nat.lt_asymm (h y (by simp [hsd]))]

theorem step1_cls_del {st : St1} {i : Nat} {t : List Nat} (j : Nat) (hsd : st.sd = i :: t) (h : ∀ x ∈ st.sa, x < i) :
    step1 st (.cls j) = .ok { st with sd := t, rd := st.rd ++ [(i, j)] } := by
  cases hsa : st.sa with
  | nil => simp [step1, hsa, hsd]
  | cons x t' => simp [step1, hsa, hsd, h x (by simp [hsa])]

theorem run1_bal {w : List Ev} {r : List SSpan} (hb : Bal w r) :
    ∀ st : St1, Mono w → NoTie w → Pre st w →
      run1 st w = .ok { st with ra := st.ra ++ adds r, rd := st.rd ++ dels r } := by
  induction hb with
  | nil => intro st _ _ _; simp [run1, adds, dels]
  | @one s i w r _ ih =>
    intro st hm hn hp
    have hw : w.Sublist (Ev.one s i :: w) := List.sublist_cons_self _ _
    cases s <;> simp only [run1, step1]
    · exact (ih { st with ra := st.ra ++ [(i, i)] } (hm.sublist hw) (hn.sub hw.subset) (hp.sub hw.subset)).trans
        (by rw [List.append_assoc]; rfl)
    · exact (ih { st with rd := st.rd ++ [(i, i)] } (hm.sublist hw) (hn.sub hw.subset) (hp.sub hw.subset)).trans
        (by rw [List.append_assoc]; rfl)
  | @pair s i j u ru w rw _ _ ihu ihw =>
    intro st hm hn hp
    -- the three hypotheses pass to sublists
    have hu : u.Sublist (Ev.opn s i :: (u ++ Ev.cls j :: w)) := (List.sublist_append_left _ _).cons _
    have hw : w.Sublist (Ev.opn s i :: (u ++ Ev.cls j :: w)) :=
      ((List.sublist_cons_self _ _).trans (List.sublist_append_right _ _)).cons _
    have hself : Ev.opn s i ∈ Ev.opn s i :: (u ++ Ev.cls j :: w) := List.mem_cons_self
    have hle : ∀ b k, Ev.opn b k ∈ u → i ≤ k := fun b k hk =>
      (List.pairwise_cons.mp hm).1 (Ev.opn b k) (List.mem_append_left _ hk)
    -- inside the pair the new entry is strictly before the openings of the other sign (no tie),
    -- so the stacks are as `ihu` needs them; after it the closing mark finds the new entry on top
    cases s with
    | false =>
      have hpu : Pre { st with sa := i :: st.sa } u :=
        ⟨fun x hx k hk => by
          rcases List.mem_cons.mp hx with rfl | hx
          · exact Nat.lt_of_le_of_ne (hle true k hk) fun h => hn x hself (h ▸ hu.subset hk)
          · exact hp.1 x hx k (hu.subset hk), (hp.sub hu.subset).2⟩
      simp only [run1, step1]
      rw [run1_append_ok (ihu _ (hm.sublist hu) (hn.sub hu.subset) hpu), run1,
        step1_cls_add (st := { st with sa := i :: st.sa, ra := st.ra ++ adds ru, rd := st.rd ++ dels ru }) j rfl
          (fun y hy => hp.2 y hy i hself)]
      exact (ihw { st with ra := st.ra ++ adds ru ++ [(i, j)], rd := st.rd ++ dels ru } (hm.sublist hw) (hn.sub hw.subset)
        (hp.sub hw.subset)).trans (by
        simp only [adds, dels, List.filterMap_append, List.append_assoc]; rfl)
    | true =>
      have hpu : Pre { st with sd := i :: st.sd } u :=
        ⟨(hp.sub hu.subset).1, fun x hx k hk => by
          rcases List.mem_cons.mp hx with rfl | hx
          · exact Nat.lt_of_le_of_ne (hle false k hk) fun h => hn x (h ▸ hu.subset hk) hself
          · exact hp.2 x hx k (hu.subset hk)⟩
      simp only [run1, step1]
      rw [run1_append_ok (ihu _ (hm.sublist hu) (hn.sub hu.subset) hpu), run1,
        step1_cls_del (st := { st with sd := i :: st.sd, ra := st.ra ++ adds ru, rd := st.rd ++ dels ru }) j rfl
          (fun x hx => hp.1 x hx i hself)]
      exact (ihw { st with ra := st.ra ++ adds ru, rd := st.rd ++ dels ru ++ [(i, j)] } (hm.sublist hw) (hn.sub hw.subset)
        (hp.sub hw.subset)).trans (by
        simp only [adds, dels, List.filterMap_append, List.append_assoc]; rfl)

/-- What `parseBal` consumes is properly nested, with the spans it returns. -/
theorem parseBal_sound : ∀ fuel w r rest, parseBal fuel w = some (r, rest) → ∃ u, w = u ++ rest ∧ Bal u r := by
  intro fuel w
  fun_induction parseBal fuel w with
  | case1 | case4 | case6 | case7 => intro r rest h; cases h
  | case2 => intro r rest h; cases h; exact ⟨[], rfl, .nil⟩
  | case3 fuel s i w r' rest' h' ih =>
    intro r rest h; cases h
    obtain ⟨u, rfl, hb⟩ := ih _ _ h'
    exact ⟨.one s i :: u, rfl, .one hb⟩
  | case5 fuel s i w ru j v h1 rw rest' h2 ih1 ih2 =>
    intro r rest h; cases h
    obtain ⟨u1, rfl, hb1⟩ := ih1 _ _ h1
    obtain ⟨u2, rfl, hb2⟩ := ih2 _ _ h2
    exact ⟨.opn s i :: (u1 ++ .cls j :: u2), by simp, .pair hb1 hb2⟩
  | case8 => intro r rest h; cases h; exact ⟨[], rfl, .nil⟩

def linesOf (L : Str) (stk : List (Str × Nat)) : List Nat :=
  stk.filterMap fun p => if p.1 = L then some p.2 else none

def proj (L : Str) (st : Bufs) : St1 :=
  { sa := linesOf L st.add.stack, sd := linesOf L st.del.stack,
    ra := spansOf L st.add.result, rd := spansOf L st.del.result }

theorem stack_nil_of_linesOf (stk : List (Str × Nat)) (h : ∀ L, linesOf L stk = []) : stk = [] := by
  cases stk with
  | nil => rfl
  | cons p t =>
    have := h p.1
    simp [linesOf] at this

theorem top_eq (L : Str) (stk : List (Str × Nat)) : top L stk = (linesOf L stk).head? := by
  induction stk with
  | nil => rfl
  | cons p t ih =>
    obtain ⟨l, x⟩ := p
    by_cases h : l = L <;> simp [top, linesOf, h] <;> simpa [linesOf] using ih

theorem linesOf_cons (L L' : Str) (i : Nat) (stk : List (Str × Nat)) :
    linesOf L' ((L, i) :: stk) = if L = L' then i :: linesOf L' stk else linesOf L' stk := by
  by_cases h : L = L' <;> simp [linesOf, h]

theorem spansOf_append (L L' : Str) (res : List Entry) (x i : Nat) :
    spansOf L' (res ++ [(L, x, i)]) = if L = L' then spansOf L' res ++ [(x, i)] else spansOf L' res := by
  by_cases h : L = L' <;> simp [spansOf, h]

theorem linesOf_pop (L L' : Str) (stk : List (Str × Nat)) :
    linesOf L' (pop L stk) = if L = L' then (linesOf L' stk).tail else linesOf L' stk := by
  induction stk with
  | nil => simp [pop, linesOf]
  | cons p t ih =>
    obtain ⟨l, x⟩ := p
    by_cases h : l = L
    · subst h; by_cases h' : l = L' <;> simp [pop, linesOf_cons, h']
    · by_cases h2 : l = L' <;> by_cases h3 : L = L' <;> simp_all [pop, linesOf_cons]

/-- What `match_label` returns on the rendering of a hint. -/
def tokOf (h : Hint) : Tok :=
  match h.mark with
  | .one false => ⟨if h.style.plus then .plus else .none, h.label, false⟩
  | .one true => ⟨.minus, h.label, false⟩
  | .opn false => ⟨if h.style.plus then .plus else .none, h.label, true⟩
  | .opn true => ⟨.minus, h.label, true⟩
  | .cls => ⟨.dots, h.label, false⟩

/-- The machine on structured hints. -/
def runH : Bufs → List (Nat × Hint) → Except Err Bufs
  | st, [] => .ok st
  | st, (i, h) :: rest =>
    match stepEv i st (tokOf h) with
    | .ok st' => runH st' rest
    | .error e => .error e

def evsOf (L : Str) (toks : List (Nat × Hint)) : List Ev :=
  toks.filterMap fun p => if p.2.label = L then some (p.2.mark.ev p.1) else none

/-- The mark a legal token stands for. -/
def Tok.ev (t : Tok) (i : Nat) : Ev :=
  match t.before, t.after with
  | .dots, _ => .cls i
  | .minus, true => .opn true i
  | .minus, false => .one true i
  | _, true => .opn false i
  | _, false => .one false i

theorem tokOf_spec (h : Hint) (i : Nat) :
    (tokOf h).ev i = h.mark.ev i ∧ (tokOf h).label = h.label ∧ (tokOf h).illegal = false := by
  obtain ⟨mark, L, plus, uni, gap⟩ := h
  cases mark with
  | one s => cases s <;> cases plus <;> exact ⟨rfl, rfl, rfl⟩
  | opn s => cases s <;> cases plus <;> exact ⟨rfl, rfl, rfl⟩
  | cls => exact ⟨rfl, rfl, rfl⟩

theorem step1_proj_tok (i : Nat) (st : Bufs) (t : Tok) (ht : t.illegal = false) :
    step1 (proj t.label st) (t.ev i) = (stepEv i st t).map (proj t.label) := by
  obtain ⟨b, L, a⟩ := t
  cases b <;> cases a
  case dots.true => cases ht
  case dots.false =>
    simp only [Tok.ev, stepEv, step1, top_eq]
    show (match (linesOf L st.add.stack).head?, (linesOf L st.del.stack).head? with
      | none, none => _ | some x, none => _ | none, some y => _ | some x, some y => _) = _
    -- both machines pop the same stack: the only non-empty one, or the one whose top is the more recent
    cases (linesOf L st.add.stack).head? <;> cases (linesOf L st.del.stack).head? <;> dsimp only
    case some.some x y =>
      by_cases hxy : x < y <;>
        simp [hxy, Except.map, proj, Buf.close, linesOf_pop, spansOf_append]
    all_goals simp [Except.map, proj, Buf.close, linesOf_pop, spansOf_append]
  all_goals
    simp [Tok.ev, stepEv, step1, Except.map, proj, Buf.append, Buf.open, linesOf_cons, spansOf_append]

theorem stepEv_other {i : Nat} {st st' : Bufs} {t : Tok} (h : stepEv i st t = .ok st') {L' : Str}
    (hne : L' ≠ t.label) : proj L' st' = proj L' st := by
  obtain ⟨b, L, a⟩ := t
  have hne' : ¬ L = L' := fun e => hne e.symm
  -- every accepting branch appends, opens or closes with the label `L` on one of the two buffers
  cases b <;> cases a <;> simp only [stepEv] at h <;> (repeat' split at h) <;> cases h <;>
    simp [proj, Buf.append, Buf.open, Buf.close, linesOf_cons, linesOf_pop, spansOf_append, hne']

theorem step1_proj (i : Nat) (st : Bufs) (h : Hint) :
    step1 (proj h.label st) (h.mark.ev i) = (stepEv i st (tokOf h)).map (proj h.label) := by
  obtain ⟨h1, h2, h3⟩ := tokOf_spec h i
  rw [← h1, ← h2]; exact step1_proj_tok i st (tokOf h) h3

theorem evsOf_cons (L : Str) (i : Nat) (h : Hint) (rest : List (Nat × Hint)) :
    evsOf L ((i, h) :: rest) = if h.label = L then h.mark.ev i :: evsOf L rest else evsOf L rest := by
  by_cases e : h.label = L <;> simp [evsOf, e]

theorem runH_proj (toks : List (Nat × Hint)) :
    ∀ st st' : Bufs, runH st toks = .ok st' → ∀ L, run1 (proj L st) (evsOf L toks) = .ok (proj L st') := by
  induction toks with
  | nil => intro st st' h L; simp [runH] at h; subst h; rfl
  | cons p rest ih =>
    obtain ⟨i, h⟩ := p
    intro st st' hrun L
    simp only [runH] at hrun
    split at hrun
    · rename_i st1 hst1
      by_cases hL : L = h.label
      · subst hL
        rw [evsOf_cons, if_pos rfl, run1, step1_proj, hst1]; exact ih _ _ hrun _
      · rw [evsOf_cons, if_neg (Ne.symm hL), ← stepEv_other hst1 ((tokOf_spec h i).2.1 ▸ hL)]; exact ih _ _ hrun L
    · cases hrun

theorem runH_of_labels (toks : List (Nat × Hint)) :
    ∀ (st : Bufs) (s : Str → St1), (∀ L, run1 (proj L st) (evsOf L toks) = .ok (s L)) →
      ∃ st', runH st toks = .ok st' ∧ ∀ L, proj L st' = s L := by
  suffices h : ∀ st : Bufs, (∀ L, ∃ s, run1 (proj L st) (evsOf L toks) = .ok s) → ∃ st', runH st toks = .ok st' from
    fun st s hall => (h st fun L => ⟨_, hall L⟩).imp fun st' hst' =>
      ⟨hst', fun L => Except.ok.inj ((runH_proj toks st st' hst' L).symm.trans (hall L))⟩
  induction toks with
  | nil => intro st _; exact ⟨st, rfl⟩
  | cons p rest ih =>
    obtain ⟨i, h⟩ := p
    intro st hall
    obtain ⟨s, hs⟩ := hall h.label
    rw [evsOf_cons, if_pos rfl, run1, step1_proj] at hs
    cases hst1 : stepEv i st (tokOf h) with
    | error e => rw [hst1] at hs; cases hs
    | ok st1 =>
      rw [hst1] at hs
      have hall' : ∀ L, ∃ s, run1 (proj L st1) (evsOf L rest) = .ok s := by
        intro L
        by_cases hL : L = h.label
        · subst hL; exact ⟨s, hs⟩
        · obtain ⟨s', hs'⟩ := hall L
          rw [evsOf_cons, if_neg (Ne.symm hL)] at hs'
          rw [stepEv_other hst1 ((tokOf_spec h i).2.1 ▸ hL)]; exact ⟨s', hs'⟩
      obtain ⟨st', hrun⟩ := ih st1 hall'
      exact ⟨st', by simp [runH, hst1, hrun]⟩

end Paroxy.Hints
