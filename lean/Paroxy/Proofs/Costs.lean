/- `findStart` finds the longest imparted prefix, the zeno sum telescopes, and the memoised assessor
returns the pure costs as long as every cached value is a cost under the current knowledge (`MemoOk`). -/
import Paroxy.Model.Costs
import Paroxy.Proofs.Dict
namespace Paroxy.Costs
open Paroxy Paroxy.Filter

/-- `k` is the length of the longest imparted proper prefix of the taxon whose edges are `edges`
(0 when there is none). -/
def IsLongest (K : List Codes) (edges : List Codes) (k : Nat) : Prop :=
  k < edges.length ∧ (k = 0 ∨ prefixOf edges k ∈ K) ∧
    ∀ s, k < s → s < edges.length → prefixOf edges s ∉ K

theorem findStart_spec (K : List Codes) (edges : List Codes) (n : Nat) :
    findStart K edges n ≤ n - 1 ∧
    (findStart K edges n = 0 ∨ prefixOf edges (findStart K edges n) ∈ K) ∧
    ∀ s, findStart K edges n < s → s < n → prefixOf edges s ∉ K := by
  induction n with
  | zero => exact ⟨Nat.le_refl 0, Or.inl rfl, fun s _ h => absurd h (Nat.not_lt_zero s)⟩
  | succ m ih =>
    obtain ⟨i1, i2, i3⟩ := ih
    unfold findStart
    by_cases hc : K.contains (prefixOf edges m) = true
    · rw [if_pos hc]
      exact ⟨Nat.le_refl m, Or.inr (List.contains_iff_mem.mp hc), fun s h1 h2 => by omega⟩
    · rw [if_neg hc]
      refine ⟨by omega, i2, fun s h1 h2 => ?_⟩
      rcases Nat.lt_or_ge s m with h | h
      · exact i3 s h1 h
      · obtain rfl : s = m := by omega
        exact fun hm => hc (List.contains_iff_mem.mpr hm)

theorem isLongest_unique {K : List Codes} {edges : List Codes} {k k' : Nat}
    (h : IsLongest K edges k) (h' : IsLongest K edges k') : k = k' := by
  obtain ⟨a1, a2, a3⟩ := h
  obtain ⟨b1, b2, b3⟩ := h'
  rcases Nat.lt_trichotomy k k' with hlt | heq | hgt
  · rcases b2 with b2 | b2
    · omega
    · exact absurd b2 (a3 k' hlt b1)
  · exact heq
  · rcases a2 with a2 | a2
    · omega
    · exact absurd a2 (b3 k hgt a1)

theorem foldl_add_eq {α} (l : List α) (f : α → Rat) (a : Rat) :
    l.foldl (fun acc i => acc + f i) a = a + (l.map f).sum := by
  induction l generalizing a with
  | nil => simp [Rat.add_zero]
  | cons x t ih => simp only [List.foldl_cons, ih, List.map_cons, List.sum_cons, Rat.add_assoc]

theorem zeno_is_sum (k d : Nat) :
    rangeCost .zeno k d = ((List.range' k (d - k)).map fun i => 1 / (2 : Rat) ^ (i + 1)).sum := by
  simp only [rangeCost]
  rw [foldl_add_eq, Rat.zero_add]

theorem half_add_half (k : Nat) : 1 / (2 : Rat) ^ (k + 1) + 1 / (2 : Rat) ^ (k + 1) = 1 / (2 : Rat) ^ k := by
  have h : (2 : Rat)⁻¹ + 2⁻¹ = 1 := by decide +kernel
  rw [Rat.pow_succ, Rat.div_def, Rat.div_def, Rat.inv_mul_rev, ← Rat.mul_add, ← Rat.add_mul, h, Rat.one_mul]

/-- The sum telescopes: the first term `2^-(k+1)` and the closed form of the rest, which starts with
`2^-(k+1)` too, make `2^-k`. -/
theorem zeno_sum_closed (k n : Nat) :
    ((List.range' k n).map fun i => 1 / (2 : Rat) ^ (i + 1)).sum =
      1 / (2 : Rat) ^ k - 1 / (2 : Rat) ^ (k + n) := by
  induction n generalizing k with
  | zero => exact Rat.sub_self.symm
  | succ m ih =>
    rw [List.range'_succ, List.map_cons, List.sum_cons, ih (k + 1), Nat.add_right_comm k 1 m,
      Rat.sub_eq_add_neg, ← Rat.add_assoc, half_add_half, Nat.add_assoc, ← Rat.sub_eq_add_neg]

theorem programCost_eq_sum (strat : Strategy) (K : List Codes) (rec : TaxaSpans) :
    programCost strat K rec = (rec.map fun ts => taxonCost strat K ts.1).sum := by
  unfold programCost
  rw [foldl_add_eq, Rat.zero_add]

theorem mapM_cons_option {α β} (f : α → Option β) (a : α) (l : List α) :
    (a :: l).mapM f = (f a).bind fun b => (l.mapM f).map (b :: ·) := by
  rw [List.mapM_cons]
  cases f a with
  | none => rfl
  | some b => cases l.mapM f <;> rfl

theorem assess_eq (strat : Strategy) (progs : List (Codes × TaxaSpans)) (K sel : List Codes) :
    assess strat progs K sel =
      (sel.mapM fun p => (dictGet? progs p).map fun rec => (programCost strat K rec, p)).map
        (·.mergeSort leCostPath) := by
  unfold assess
  cases sel.mapM fun p => (dictGet? progs p).map fun rec => (programCost strat K rec, p) <;> rfl

/-- "By cost, then by `le` on the rest": the shape of Python's order on tuples whose first component is a cost. -/
theorem lex_total {β} {le : β → β → Prop} [DecidableRel le] (tot : ∀ x y, le x y ∨ le y x) (a b : Rat × β) :
    ((decide (a.1 < b.1) || (decide (a.1 = b.1) && decide (le a.2 b.2))) ||
      (decide (b.1 < a.1) || (decide (b.1 = a.1) && decide (le b.2 a.2)))) = true := by
  simp only [Bool.or_eq_true, Bool.and_eq_true, decide_eq_true_eq]
  rcases Std.lt_trichotomy a.1 b.1 with h | h | h
  · exact Or.inl (Or.inl h)
  · rcases tot a.2 b.2 with h2 | h2
    · exact Or.inl (Or.inr ⟨h, h2⟩)
    · exact Or.inr (Or.inr ⟨h.symm, h2⟩)
  · exact Or.inr (Or.inl h)

theorem lex_trans {β} {le : β → β → Prop} [DecidableRel le] (tr : ∀ x y z, le x y → le y z → le x z)
    (a b c : Rat × β) (h1 : (decide (a.1 < b.1) || (decide (a.1 = b.1) && decide (le a.2 b.2))) = true)
    (h2 : (decide (b.1 < c.1) || (decide (b.1 = c.1) && decide (le b.2 c.2))) = true) :
    (decide (a.1 < c.1) || (decide (a.1 = c.1) && decide (le a.2 c.2))) = true := by
  simp only [Bool.or_eq_true, Bool.and_eq_true, decide_eq_true_eq] at *
  rcases h1 with h1 | ⟨e1, l1⟩ <;> rcases h2 with h2 | ⟨e2, l2⟩
  · exact Or.inl (Std.lt_trans h1 h2)
  · exact Or.inl (e2 ▸ h1)
  · exact Or.inl (e1 ▸ h2)
  · exact Or.inr ⟨e1.trans e2, tr _ _ _ l1 l2⟩

theorem leCostPath_total (a b : Rat × Codes) : (leCostPath a b || leCostPath b a) = true :=
  lex_total (le := (· ≤ ·)) List.le_total a b

theorem leCostPath_trans (a b c : Rat × Codes) (h1 : leCostPath a b = true) (h2 : leCostPath b c = true) :
    leCostPath a c = true :=
  lex_trans (le := (· ≤ ·)) (fun _ _ _ => List.le_trans) a b c h1 h2

theorem sum_map_nonneg {α} (l : List α) (f : α → Rat) (h : ∀ a ∈ l, 0 ≤ f a) : 0 ≤ (l.map f).sum := by
  induction l with
  | nil => exact Rat.le_refl
  | cons a t ih =>
    rw [List.map_cons, List.sum_cons]
    exact Rat.add_nonneg (h a List.mem_cons_self) (ih fun x hx => h x (List.mem_cons_of_mem _ hx))

theorem rangeCost_nonneg (strat : Strategy) (k d : Nat) (h : k ≤ d) : 0 ≤ rangeCost strat k d := by
  cases strat
  · rw [zeno_is_sum]
    refine sum_map_nonneg _ _ fun j _ => ?_
    rw [Rat.div_def, Rat.one_mul]
    exact Rat.le_of_lt (Rat.inv_pos.mpr (Rat.pow_pos (by decide)))
  · exact Rat.intCast_nonneg.mpr (by omega)

theorem taxonCost_nonneg (strat : Strategy) (K : List Codes) (t : Codes) : 0 ≤ taxonCost strat K t := by
  unfold taxonCost
  split
  · exact Rat.le_refl
  · split
    · exact rangeCost_nonneg strat 0 0 (Nat.le_refl 0)
    · exact rangeCost_nonneg strat _ _ (Nat.le_trans (findStart_spec K _ _).1 (Nat.sub_le _ _))

theorem programCost_nonneg (strat : Strategy) (K : List Codes) (rec : TaxaSpans) :
    0 ≤ programCost strat K rec := by
  rw [programCost_eq_sum]
  exact sum_map_nonneg _ _ fun ts _ => taxonCost_nonneg strat K ts.1

/-- Every cached value is the cost under the *current* knowledge. -/
def MemoOk (strat : Strategy) (s : AState) : Prop :=
  ∀ t v, dictGet? s.memo t = some v → v = taxonCost strat s.knowledge t

theorem MemoOk.nil (strat : Strategy) (K : List Codes) : MemoOk strat ⟨K, []⟩ :=
  fun _ _ h => nomatch h

theorem memoCost_knowledge (strat : Strategy) (s : AState) (t : Codes) :
    (memoCost strat s t).1.knowledge = s.knowledge := by
  unfold memoCost
  cases dictGet? s.memo t <;> rfl

theorem memoCost_spec (strat : Strategy) (s : AState) (t : Codes) (h : MemoOk strat s) :
    (memoCost strat s t).2 = taxonCost strat s.knowledge t ∧ MemoOk strat (memoCost strat s t).1 := by
  unfold memoCost
  cases hg : dictGet? s.memo t with
  | some v => exact ⟨h t v hg, h⟩
  | none =>
    refine ⟨rfl, fun t' v' hv' => ?_⟩
    rcases (dictGet?_append_single ..).mp hv' with h' | ⟨_, rfl, rfl⟩
    · exact h t' v' h'
    · rfl

/-- The memoised program costs thread a state through the record while the costs are added up: the
sum accumulated so far can be taken out of the fold. -/
theorem foldl_cost_acc {σ α} (f : σ → α → σ × Rat) (l : List α) (s : σ) (a : Rat) :
    l.foldl (fun acc x => ((f acc.1 x).1, acc.2 + (f acc.1 x).2)) (s, a) =
      ((l.foldl (fun acc x => ((f acc.1 x).1, acc.2 + (f acc.1 x).2)) (s, 0)).1,
        a + (l.foldl (fun acc x => ((f acc.1 x).1, acc.2 + (f acc.1 x).2)) (s, 0)).2) := by
  induction l generalizing s a with
  | nil => simp only [List.foldl_nil, Rat.add_zero]
  | cons x t ih =>
    simp only [List.foldl_cons]
    rw [ih _ (a + _), ih _ (0 + _), Rat.zero_add, Rat.add_assoc]

theorem memoProgramCost_cons (strat : Strategy) (s : AState) (x : Codes × List Span) (l : TaxaSpans) :
    memoProgramCost strat s (x :: l) =
      ((memoProgramCost strat (memoCost strat s x.1).1 l).1,
        (memoCost strat s x.1).2 + (memoProgramCost strat (memoCost strat s x.1).1 l).2) := by
  unfold memoProgramCost
  simp only [List.foldl_cons]
  rw [foldl_cost_acc (fun (s : AState) (ts : Codes × List Span) => memoCost strat s ts.1), Rat.zero_add]

theorem memoProgramCost_knowledge (strat : Strategy) (rec : TaxaSpans) (s : AState) :
    (memoProgramCost strat s rec).1.knowledge = s.knowledge := by
  induction rec generalizing s with
  | nil => rfl
  | cons x l ih => rw [memoProgramCost_cons]; exact (ih _).trans (memoCost_knowledge strat s x.1)

theorem memoProgramCost_spec (strat : Strategy) (rec : TaxaSpans) (s : AState) (h : MemoOk strat s) :
    (memoProgramCost strat s rec).2 = programCost strat s.knowledge rec ∧
      MemoOk strat (memoProgramCost strat s rec).1 := by
  induction rec generalizing s with
  | nil => exact ⟨rfl, h⟩
  | cons x l ih =>
    obtain ⟨e1, e2⟩ := memoCost_spec strat s x.1 h
    obtain ⟨f1, f2⟩ := ih _ e2
    rw [memoProgramCost_cons]
    exact ⟨by rw [f1, e1, memoCost_knowledge, programCost_eq_sum, programCost_eq_sum, List.map_cons,
      List.sum_cons], f2⟩

theorem memoAssess_knowledge (strat : Strategy) (progs : List (Codes × TaxaSpans)) (sel : List Codes) (s : AState) :
    (memoAssess strat progs s sel).1.knowledge = s.knowledge := by
  induction sel generalizing s with
  | nil => rfl
  | cons p ps ih =>
    unfold memoAssess
    cases dictGet? progs p with
    | none => rfl
    | some rec => exact (ih _).trans (memoProgramCost_knowledge strat rec s)

theorem memoAssess_spec (strat : Strategy) (progs : List (Codes × TaxaSpans)) (sel : List Codes) (s : AState)
    (h : MemoOk strat s) :
    (memoAssess strat progs s sel).2 =
      sel.mapM (fun p => (dictGet? progs p).map fun rec => (programCost strat s.knowledge rec, p)) ∧
    MemoOk strat (memoAssess strat progs s sel).1 := by
  induction sel generalizing s with
  | nil => exact ⟨rfl, h⟩
  | cons p ps ih =>
    unfold memoAssess
    cases hg : dictGet? progs p with
    | none => exact ⟨by rw [mapM_cons_option, hg]; rfl, h⟩
    | some rec =>
      obtain ⟨e1, e2⟩ := memoProgramCost_spec strat rec s h
      obtain ⟨f1, f2⟩ := ih (memoProgramCost strat s rec).1 e2
      refine ⟨?_, f2⟩
      simp only
      rw [f1, e1, memoProgramCost_knowledge, mapM_cons_option, hg]
      rfl

/-- Costs read the knowledge as a set: through `contains` only. -/
theorem taxonCost_congr (strat : Strategy) (K K' : List Codes) (h : ∀ t, t ∈ K ↔ t ∈ K') (t : Codes) :
    taxonCost strat K t = taxonCost strat K' t := by
  have hc : ∀ u, K.contains u = K'.contains u := fun u => by
    rw [Bool.eq_iff_iff, List.contains_iff_mem, List.contains_iff_mem]; exact h u
  have hf : ∀ edges n, findStart K edges n = findStart K' edges n := fun edges n => by
    induction n with
    | zero => rfl
    | succ m ih => unfold findStart; rw [hc, ih]
  unfold taxonCost
  rw [hc]
  simp only [hf]

theorem programCost_congr (strat : Strategy) (K K' : List Codes) (h : ∀ t, t ∈ K ↔ t ∈ K') (rec : TaxaSpans) :
    programCost strat K rec = programCost strat K' rec := by
  simp only [programCost, taxonCost_congr strat K K' h]

theorem assess_congr (strat : Strategy) (progs : List (Codes × TaxaSpans)) (K K' : List Codes)
    (h : ∀ t, t ∈ K ↔ t ∈ K') (sel : List Codes) : assess strat progs K sel = assess strat progs K' sel := by
  simp only [assess, programCost_congr strat K K' h]

end Paroxy.Costs
