/- The report lists costs in non-decreasing order across headings: cost buckets in first-appearance
order are in increasing order when the assessed list is sorted by cost. -/
import Paroxy.Proofs.Report
namespace Paroxy.Report
open Paroxy Paroxy.Filter Paroxy.Costs

/-- An injective numbering of the headings, increasing with the interval. -/
def Bucket.rank : Bucket → Nat
  | .zero => 0
  | .q1 => 1
  | .q2 => 2
  | .q3 => 3
  | .noGroup => 4
  | .pow lo => lo + 5

theorem Bucket.rank_inj {a b : Bucket} (h : a.rank = b.rank) : a = b := by
  -- a bucket can be read back from its rank
  have inv : ∀ x : Bucket, x = match x.rank with
      | 0 => .zero | 1 => .q1 | 2 => .q2 | 3 => .q3 | 4 => .noGroup | lo + 5 => .pow lo := by
    intro x; cases x <;> rfl
  rw [inv a, inv b, h]

theorem rank_costBucket (c : Rat) : (costBucket c).rank =
    if c = 0 then 0 else if c < 1 / 4 then 1 else if c < 1 / 2 then 2 else if c < 1 then 3
    else 2 ^ Nat.log2 c.floor.toNat + 5 := by
  simp only [costBucket, apply_ite Bucket.rank]
  rfl

/-- A step function stays monotone when a lower step is put in front of it. -/
theorem ite_lt_mono {t c c' : Rat} {r a a' : Nat} (h : c ≤ c') (hr : ¬ c' < t → r ≤ a')
    (ha : ¬ c < t → a ≤ a') : (if c < t then r else a) ≤ (if c' < t then r else a') := by
  by_cases hc' : c' < t
  · rw [if_pos hc', if_pos (Std.lt_of_le_of_lt h hc')]; exact Nat.le_refl r
  · rw [if_neg hc']
    by_cases hc : c < t
    · rw [if_pos hc]; exact hr hc'
    · rw [if_neg hc]; exact ha hc

theorem costBucket_rank_mono {c c' : Rat} (h0 : 0 ≤ c) (h : c ≤ c') :
    (costBucket c).rank ≤ (costBucket c').rank := by
  have hpow : ¬ c < 1 → 2 ^ Nat.log2 c.floor.toNat ≤ 2 ^ Nat.log2 c'.floor.toNat := fun h1 => by
    have hfl : (1 : Int) ≤ c.floor := Rat.le_floor_iff.mpr (by simpa using Rat.not_lt.mp h1)
    have hn : c.floor.toNat ≠ 0 := by omega
    have hle := Int.toNat_le_toNat (Rat.floor_monotone h)
    exact Nat.pow_le_pow_right (by omega)
      ((Nat.le_log2 (by omega)).mpr (Nat.le_trans (Nat.log2_self_le hn) hle))
  rw [rank_costBucket, rank_costBucket]
  generalize 2 ^ Nat.log2 c.floor.toNat = z at hpow ⊢
  generalize 2 ^ Nat.log2 c'.floor.toNat = z' at hpow ⊢
  by_cases hc : c = 0
  · rw [if_pos hc]; exact Nat.zero_le _
  · have hc' : c' ≠ 0 := Rat.ne_of_gt (Std.lt_of_lt_of_le (Std.lt_of_le_of_ne h0 (Ne.symm hc)) h)
    rw [if_neg hc, if_neg hc']
    -- one step at a time: the value of a step is below every later value
    refine ite_lt_mono h (fun _ => ?_) fun _ => ite_lt_mono h (fun _ => ?_) fun _ =>
      ite_lt_mono h (fun _ => ?_) fun h1 => ?_
    · split
      · omega
      · split <;> omega
    · split <;> omega
    · omega
    · have := hpow h1; omega

theorem insertGroup_keys {κ α} [DecidableEq κ] (g : List (κ × List α)) (k : κ) (a : α) :
    (insertGroup g k a).map (·.1) = if k ∈ g.map (·.1) then g.map (·.1) else g.map (·.1) ++ [k] := by
  induction g with
  | nil => simp [insertGroup]
  | cons q t ih =>
    obtain ⟨k', l⟩ := q
    unfold insertGroup
    by_cases hk : k' = k
    · simp [hk]
    · have hk' : ¬ k = k' := fun e => hk e.symm
      simp only [hk, if_false, List.map_cons, ih, List.mem_cons, hk', false_or]
      split <;> simp

theorem groupBy_keys_strict {κ α} [DecidableEq κ] (r : κ → Nat) (hinj : ∀ a b, r a = r b → a = b)
    (key : α → κ) (l : List α) (hl : l.Pairwise fun a b => r (key a) ≤ r (key b)) :
    ((groupBy key l).map fun p => r p.1).Pairwise (· < ·) := by
  -- invariant: the ranks of the groups increase, and every group has the key of an element seen
  have := (groupBy_ind key (P := fun l g => l.Pairwise (fun a b => r (key a) ≤ r (key b)) →
      ((g.map (·.1)).map r).Pairwise (· < ·) ∧ ∀ k ∈ g.map (·.1), ∃ x ∈ l, key x = k)
    (fun _ => ⟨.nil, fun _ h => (nomatch h)⟩) (fun l g a ih hl => ?_) l hl).1
  · rw [List.map_map] at this; exact this
  rw [List.pairwise_append] at hl
  obtain ⟨hg, hk⟩ := ih hl.1
  rw [insertGroup_keys]
  split
  · exact ⟨hg, fun k hk' => let ⟨x, hx, e⟩ := hk k hk'; ⟨x, List.mem_append_left _ hx, e⟩⟩
  · rename_i hnot
    constructor
    · rw [List.map_append, List.pairwise_append]
      refine ⟨hg, List.pairwise_singleton _ _, fun x hx y hy => ?_⟩
      obtain ⟨k, hk', rfl⟩ := List.mem_map.mp hx
      obtain ⟨z, hz, rfl⟩ := hk k hk'
      cases List.mem_singleton.mp hy
      exact Nat.lt_of_le_of_ne (hl.2.2 z hz a List.mem_cons_self) fun e => hnot (hinj _ _ e ▸ hk')
    · intro k hk'
      rcases List.mem_append.mp hk' with h | h
      · obtain ⟨x, hx, e⟩ := hk k h; exact ⟨x, List.mem_append_left _ hx, e⟩
      · exact ⟨a, List.mem_append_right _ List.mem_cons_self, (List.mem_singleton.mp h).symm⟩

theorem groupKey_rank_mono (i : Input) (a b : Rat × Codes) (h0 : 0 ≤ a.1) (h : a.1 ≤ b.1) :
    (groupKey i a).rank ≤ (groupKey i b).rank := by
  unfold groupKey
  split
  · exact costBucket_rank_mono h0 h
  · exact Nat.le_refl _

theorem body_keys_strict (i : Input)
    (hsorted : i.assessed.Pairwise (fun a b => a.1 ≤ b.1)) (hnonneg : ∀ cp ∈ i.assessed, 0 ≤ cp.1)
    (b : List (Bucket × List Section)) (h : body i = some b) :
    b.Pairwise fun g1 g2 => g1.1.rank < g2.1.rank := by
  have hv : (visible i).Pairwise fun a b => (groupKey i a).rank ≤ (groupKey i b).rank := by
    unfold visible
    apply List.Pairwise.filter
    exact hsorted.imp_of_mem fun {a b} ha _ hab => groupKey_rank_mono i a b (hnonneg a ha) hab
  have := groupBy_keys_strict Bucket.rank (fun _ _ => Bucket.rank_inj) (groupKey i) (visible i) hv
  rw [← (mapM_some_all2 h).map_eq (g := fun p => p.1.rank) (g' := fun p => p.1.rank)
    fun g r hr => congrArg Bucket.rank (groupSections_spec i g r hr).1, List.pairwise_map] at this
  exact this

theorem body_costs_sorted (i : Input) (hs : i.sorting = .byCostAndSloc)
    (hsorted : i.assessed.Pairwise (fun a b => a.1 ≤ b.1)) (hnonneg : ∀ cp ∈ i.assessed, 0 ≤ cp.1)
    (b : List (Bucket × List Section)) (h : body i = some b) :
    (b.flatMap fun g => g.2.map fun s => s.cost).Pairwise (· ≤ ·) := by
  obtain ⟨_, hkey, hin⟩ := body_spec i b h
  rw [List.pairwise_flatMap]
  constructor
  · intro g hg
    have := hin g hg
    rw [List.pairwise_map] at this ⊢
    refine this.imp fun {x y} hxy => ?_
    simp only [hs, leMember, Bool.or_eq_true, Bool.and_eq_true, decide_eq_true_eq] at hxy
    rcases hxy with h | ⟨h, _⟩
    · exact Rat.le_of_lt h
    · rw [h]; exact Rat.le_refl
  · refine (body_keys_strict i hsorted hnonneg b h).imp_of_mem ?_
    intro g1 g2 hg1 hg2 hlt x hx y hy
    obtain ⟨s1, hs1, rfl⟩ := List.mem_map.mp hx
    obtain ⟨s2, hs2, rfl⟩ := List.mem_map.mp hy
    have k1 := (hkey g1 hg1 s1 hs1).1
    have k2 := (hkey g2 hg2 s2 hs2).1
    have hmem := section_assessed i b h g2 hg2 s2 hs2
    rcases Rat.le_total (a := s1.cost) (b := s2.cost) with hle | hle
    · exact hle
    · have := groupKey_rank_mono i (s2.cost, s2.path) (s1.cost, s1.path) (hnonneg _ hmem) hle
      rw [k1, k2] at this
      omega

/-- Three programs of zeno costs 0, 1/2 and 5/4 (buckets `0`, `[0.5, 1[`, `[1, 2[`). -/
def exampleInput (grouping : Bool) : Input where
  strat := .zeno
  programs := [(codesOf "a.py", [(codesOf "x", [])]),
               (codesOf "b.py", [(codesOf "x/y", []), (codesOf "z", [])]),
               (codesOf "c.py", [(codesOf "meta/q", [])])]
  sloc := fun _ => 1
  knowledge := []
  hiddenTaxa := []
  hiddenPrograms := []
  assessed := [(0, codesOf "c.py"), (1 / 2, codesOf "a.py"), (5 / 4, codesOf "b.py")]
  sorting := .byCostAndSloc
  grouping := grouping

/-- The headings and `(cost, path)` listing of a body. -/
def listing (b : List (Bucket × List Section)) : List (Bucket × List (Rat × Codes)) :=
  b.map fun g => (g.1, g.2.map fun s => (s.cost, s.path))

/-- `mergeSort` does not reduce in the kernel: to evaluate a concrete `body` whose groups are
already in order, use this sort-free form. -/
def bodyPresorted (i : Input) : Option (List (Bucket × List Section)) :=
  (groupBy (groupKey i) (visible i)).mapM fun g => (g.2.mapM (sectionOf i)).map fun secs => (g.1, secs)

theorem mapM_congr_mem {α β} {f g : α → Option β} (l : List α) (h : ∀ a ∈ l, f a = g a) :
    l.mapM f = l.mapM g := by
  induction l with
  | nil => rfl
  | cons a t ih =>
    simp only [List.mapM_cons, h a List.mem_cons_self,
      ih fun x hx => h x (List.mem_cons_of_mem _ hx)]

theorem body_of_presorted (i : Input)
    (h : ∀ g ∈ groupBy (groupKey i) (visible i),
      g.2.Pairwise fun a b => leMember i.sorting i.sloc a b = true) :
    body i = bodyPresorted i := by
  rw [body_eq]
  unfold bodyPresorted
  apply mapM_congr_mem
  intro g hg
  unfold groupSections
  rw [List.mergeSort_of_pairwise (h g hg)]

end Paroxy.Report
