/-
`add_imported_taxa` (Model/Filter.lean, `addImported`) on a well-formed database (`DB.WF`):
it succeeds, keeps the programs, yields a well-formed filter context (`Ctx.WF`), and every record
becomes its own items plus, with an empty span list, the non-`meta/` taxa of the programs it imports.
The two nested `foldlM` are handled by one invariant rule (`foldlM_inv`).
-/
import Paroxy.Spec.Filter
import Paroxy.Proofs.Dict
import Paroxy.Proofs.Assoc
namespace Paroxy.Filter
open Paroxy

theorem updateProgram_keys (progs : List (Codes × TaxaSpans)) (p : Codes) (f : TaxaSpans → TaxaSpans) :
    (updateProgram progs p f).map (·.1) = progs.map (·.1) := by
  rw [updateProgram, List.map_map]
  exact List.map_congr_left fun ⟨q, r⟩ _ => by dsimp only [Function.comp]; split <;> rfl

theorem dictGet?_updateProgram (progs : List (Codes × TaxaSpans)) (p : Codes)
    (f : TaxaSpans → TaxaSpans) (q : Codes) :
    dictGet? (updateProgram progs p f) q =
      if q = p then (dictGet? progs q).map f else dictGet? progs q := by
  induction progs with
  | nil => simp [updateProgram, dictGet?]
  | cons x t ih =>
    obtain ⟨k, r⟩ := x
    simp only [updateProgram, List.map_cons] at ih ⊢
    by_cases hkq : k = q
    · subst hkq; by_cases hkp : k = p <;> simp [hkp, dictGet?]
    · have hqk : ¬ q = k := fun h => hkq h.symm
      by_cases hkp : k = p
      · subst hkp; simp [hkq, hqk, dictGet?, ih]
      · simp [hkp, hkq, dictGet?, ih]

theorem addIfAbsent_keys (r : TaxaSpans) (t u : Codes) :
    u ∈ (addIfAbsent r t).map (·.1) ↔ u ∈ r.map (·.1) ∨ u = t := by
  unfold addIfAbsent
  cases h : dictGet? r t with
  | some v => exact ⟨Or.inl, fun h' => h'.elim id fun e => by rw [e]; exact dictGet?_key_mem h⟩
  | none => rw [List.map_append, List.mem_append]; exact or_congr_right List.mem_singleton

theorem foldl_addIfAbsent_keys (X : List Codes) (r : TaxaSpans) (u : Codes) :
    u ∈ (X.foldl addIfAbsent r).map (·.1) ↔ u ∈ r.map (·.1) ∨ u ∈ X :=
  (Assoc.mem_keys_foldl (key := id) addIfAbsent_keys X r u).trans (by rw [List.map_id])

/-- `t` may legitimately be a key of `p`'s record: an own taxon, or a non-`meta/` own taxon of a
program that `p` imports. -/
def Sound (db : DB) (p : Codes) (rec : TaxaSpans) (t : Codes) : Prop :=
  t ∈ rec.map (·.1) ∨
    (isMeta t = false ∧ ∃ q recq, db.Exp p q ∧ dictGet? db.programs q = some recq ∧ t ∈ recq.map (·.1))

/-- Current record `rec'` of program `p` against its stored record `rec`. -/
structure RecInv (db : DB) (p : Codes) (rec rec' : TaxaSpans) : Prop where
  items : ∀ t spans, spans ≠ [] → ((t, spans) ∈ rec' ↔ (t, spans) ∈ rec)
  nodup : (rec'.map (·.1)).Nodup
  own : ∀ t, t ∈ rec.map (·.1) → t ∈ rec'.map (·.1)
  sound : ∀ t, t ∈ rec'.map (·.1) → Sound db p rec t

theorem RecInv.refl (db : DB) (p : Codes) (rec : TaxaSpans) (nd : (rec.map (·.1)).Nodup) :
    RecInv db p rec rec :=
  ⟨fun _ _ _ => Iff.rfl, nd, fun _ h => h, fun _ h => Or.inl h⟩

theorem RecInv.addIfAbsent {db : DB} {p : Codes} {rec rec' : TaxaSpans} (h : RecInv db p rec rec')
    (t : Codes) (ht : Sound db p rec t) : RecInv db p rec (addIfAbsent rec' t) := by
  unfold Filter.addIfAbsent
  cases hd : dictGet? rec' t with
  | some v => exact h
  | none =>
    refine ⟨fun u spans hne => ?_, ?_, fun u hu => ?_, fun u hu => ?_⟩
    · rw [← h.items u spans hne, List.mem_append, List.mem_singleton, Prod.mk.injEq]
      exact ⟨fun h' => h'.resolve_right fun e => hne e.2, Or.inl⟩
    · rw [List.map_append, List.nodup_append]
      refine ⟨h.nodup, by simp, fun a ha b hb hab => ?_⟩
      cases List.mem_singleton.mp hb
      obtain ⟨v, hv⟩ := dictGet?_of_key_mem (hab ▸ ha)
      rw [hd] at hv; cases hv
    · rw [List.map_append]; exact List.mem_append_left _ (h.own u hu)
    · rw [List.map_append, List.mem_append] at hu
      exact hu.elim (h.sound u) fun e => List.mem_singleton.mp e ▸ ht

theorem RecInv.foldl {db : DB} {p : Codes} {rec rec' : TaxaSpans} (X : List Codes) (h : RecInv db p rec rec')
    (hX : ∀ t ∈ X, Sound db p rec t) : RecInv db p rec (X.foldl Filter.addIfAbsent rec') :=
  List.foldlRecOn (motive := RecInv db p rec) X _ h fun _ ih t ht => ih.addIfAbsent t (hX t ht)

structure Inv (db : DB) (progs : List (Codes × TaxaSpans)) : Prop where
  keys : progs.map (·.1) = db.programs.map (·.1)
  recs : ∀ p rec', dictGet? progs p = some rec' →
    ∃ rec, dictGet? db.programs p = some rec ∧ RecInv db p rec rec'

/-- Program `i` holds taxon `t` in its record. -/
def Holds (s : List (Codes × TaxaSpans)) (i t : Codes) : Prop :=
  ∃ r, dictGet? s i = some r ∧ t ∈ r.map (·.1)

/-- Records only gain keys. -/
def Mono (s s' : List (Codes × TaxaSpans)) : Prop := ∀ i t, Holds s i t → Holds s' i t

/-- Invariant rule for the two `foldlM` loops: each step keeps `I`, only lets records gain keys, and
establishes `D a` for its element `a`, which later steps preserve. -/
theorem foldlM_inv {α : Type} (f : List (Codes × TaxaSpans) → α → Option (List (Codes × TaxaSpans)))
    (I : List (Codes × TaxaSpans) → Prop) (D : α → List (Codes × TaxaSpans) → Prop) (P : α → Prop)
    (dmono : ∀ a s s', D a s → Mono s s' → D a s')
    (step : ∀ s a, I s → P a → ∃ s', f s a = some s' ∧ I s' ∧ Mono s s' ∧ D a s') :
    ∀ (l : List α) s, I s → (∀ a ∈ l, P a) →
      ∃ s', l.foldlM f s = some s' ∧ I s' ∧ Mono s s' ∧ ∀ a ∈ l, D a s' := by
  intro l
  induction l with
  | nil => exact fun s hI _ => ⟨s, rfl, hI, fun _ _ h => h, fun a ha => nomatch ha⟩
  | cons a t ih =>
    intro s hI hP
    obtain ⟨s1, e1, i1, m1, d1⟩ := step s a hI (hP a List.mem_cons_self)
    obtain ⟨s2, e2, i2, m2, d2⟩ := ih s1 i1 (fun b hb => hP b (List.mem_cons_of_mem _ hb))
    refine ⟨s2, by rw [List.foldlM_cons, e1]; exact e2, i2, fun i u h => m2 i u (m1 i u h), fun b hb => ?_⟩
    rcases List.mem_cons.1 hb with rfl | hb
    · exact dmono _ _ _ d1 m2
    · exact d2 b hb

theorem Inv.init (db : DB) (wf : db.WF) : Inv db db.programs :=
  ⟨rfl, fun p rec h => ⟨rec, h, RecInv.refl db p rec (wf.recNodup p rec (dictGet?_mem h))⟩⟩

/-- The body of the inner `foldlM` of `addImportedStep`. -/
def innerStep (X : List Codes) (acc : List (Codes × TaxaSpans)) (importer : Codes) :
    Option (List (Codes × TaxaSpans)) :=
  match dictGet? acc importer with
  | none => none
  | some _ => some (updateProgram acc importer (fun r => X.foldl addIfAbsent r))

theorem innerStep_spec (db : DB) (X : List Codes) (s : List (Codes × TaxaSpans)) (i : Codes)
    (hI : Inv db s)
    (hP : i ∈ db.programs.map (·.1) ∧ ∀ rec, dictGet? db.programs i = some rec → ∀ t ∈ X, Sound db i rec t) :
    ∃ s', innerStep X s i = some s' ∧ Inv db s' ∧ Mono s s' ∧ ∀ t ∈ X, Holds s' i t := by
  obtain ⟨hi, hX⟩ := hP
  obtain ⟨ri, hri⟩ := dictGet?_of_key_mem (hI.keys ▸ hi)
  have hget : dictGet? (updateProgram s i fun r => X.foldl addIfAbsent r) i = some (X.foldl addIfAbsent ri) := by
    rw [dictGet?_updateProgram, if_pos rfl, hri]; rfl
  refine ⟨_, by simp only [innerStep, hri], ⟨(updateProgram_keys ..).trans hI.keys, fun p rec' h => ?_⟩,
    fun p t ⟨r, h, ht⟩ => ?_, fun t ht => ⟨_, hget, (foldl_addIfAbsent_keys X ri t).2 (Or.inr ht)⟩⟩
  · by_cases hp : p = i
    · subst hp
      rw [hget] at h; cases h
      obtain ⟨rec, e, inv⟩ := hI.recs p ri hri
      exact ⟨rec, e, inv.foldl X (hX rec e)⟩
    · rw [dictGet?_updateProgram, if_neg hp] at h
      exact hI.recs p rec' h
  · by_cases hp : p = i
    · subst hp
      rw [hri] at h; cases h
      exact ⟨_, hget, (foldl_addIfAbsent_keys X ri t).2 (Or.inl ht)⟩
    · exact ⟨r, by rw [dictGet?_updateProgram, if_neg hp]; exact h, ht⟩

/-- The entry `(e, imps)` has been processed: every importer holds every non-`meta/` own taxon
of the exporter. -/
def Done (db : DB) (x : Codes × List Codes) (s : List (Codes × TaxaSpans)) : Prop :=
  ∀ i ∈ x.2, ∀ rece, dictGet? db.programs x.1 = some rece → ∀ t, t ∈ rece.map (·.1) → isMeta t = false →
    ∃ r, dictGet? s i = some r ∧ t ∈ r.map (·.1)

theorem Done.mono {db : DB} {x : Codes × List Codes} {s s' : List (Codes × TaxaSpans)}
    (h : Done db x s) (m : Mono s s') : Done db x s' :=
  fun i hi rece he t ht hm => m i t (h i hi rece he t ht hm)

theorem addImportedStep_eq (progs : List (Codes × TaxaSpans)) (e : Codes × List Codes)
    (rec : TaxaSpans) (h : dictGet? progs e.1 = some rec) :
    addImportedStep progs e =
      if ((rec.map (·.1)).filter (fun t => !isMeta t)).isEmpty then some progs
      else e.2.foldlM (innerStep ((rec.map (·.1)).filter (fun t => !isMeta t))) progs := by
  unfold addImportedStep
  simp only [h, Option.bind_eq_bind, Option.bind_some, Option.pure_def]
  rfl

theorem addImportedStep_spec (db : DB) (wf : db.WF) (s : List (Codes × TaxaSpans))
    (x : Codes × List Codes) (hI : Inv db s) (hx : x ∈ db.exportations) :
    ∃ s', addImportedStep s x = some s' ∧ Inv db s' ∧ Mono s s' ∧ Done db x s' := by
  obtain ⟨e, imps⟩ := x
  have hget : dictGet? db.exportations e = some imps := dictGet?_of_mem_nodup wf.expNodup hx
  have hexp : ∀ i ∈ imps, db.Exp i e := by
    intro i hi; unfold DB.Exp; rw [hget]; exact hi
  have heprog : e ∈ db.programs.map (·.1) :=
    (wf.expKeys e).1 (List.mem_map.2 ⟨(e, imps), hx, rfl⟩)
  obtain ⟨rec', hrec'⟩ := dictGet?_of_key_mem (hI.keys ▸ heprog)
  obtain ⟨rece, hrece, inv⟩ := hI.recs e rec' hrec'
  rw [addImportedStep_eq s (e, imps) rec' hrec']
  -- `X`: the snapshot of the exporter's taxa that are not under `meta/`
  have hmemX : ∀ t, t ∈ (rec'.map (·.1)).filter (fun t => !isMeta t) ↔
      t ∈ rec'.map (·.1) ∧ isMeta t = false := by
    intro t; simp [List.mem_filter]
  generalize (rec'.map (·.1)).filter (fun t => !isMeta t) = X at hmemX ⊢
  -- the entry is done once every importer holds the whole snapshot
  have hdone : ∀ s', (∀ i ∈ imps, ∀ t ∈ X, Holds s' i t) → Done db (e, imps) s' := by
    intro s' H i hi rece2 he2 t ht hm
    rw [show dictGet? db.programs e = some rece from hrece] at he2; cases he2
    exact H i hi t ((hmemX t).2 ⟨inv.own t ht, hm⟩)
  by_cases hemp : X.isEmpty = true
  · rw [if_pos hemp]
    refine ⟨s, rfl, hI, fun _ _ h => h, hdone s fun i _ t ht => ?_⟩
    rw [List.isEmpty_iff.1 hemp] at ht; cases ht
  · rw [if_neg hemp]
    have hP : ∀ i ∈ imps, i ∈ db.programs.map (·.1) ∧
        ∀ rec, dictGet? db.programs i = some rec → ∀ t ∈ X, Sound db i rec t := by
      intro i hi
      refine ⟨wf.expValues e i (hexp i hi), fun rec _ t ht => ?_⟩
      obtain ⟨ht1, ht2⟩ := (hmemX t).1 ht
      rcases inv.sound t ht1 with h | ⟨_, q, recq, hq, hrq, htq⟩
      · exact Or.inr ⟨ht2, e, rece, hexp i hi, hrece, h⟩
      · exact Or.inr ⟨ht2, q, recq, wf.expTrans i e q (hexp i hi) hq, hrq, htq⟩
    obtain ⟨s', e1, i1, m1, d1⟩ := foldlM_inv (innerStep X) (Inv db) (fun i s => ∀ t ∈ X, Holds s i t) _
      (fun _ _ _ h m t ht => m _ t (h t ht)) (fun s i hI hP => innerStep_spec db X s i hI hP) imps s hI hP
    exact ⟨s', e1, i1, m1, hdone s' d1⟩

theorem Inv.complete {db : DB} {progs : List (Codes × TaxaSpans)}
    (d : ∀ x ∈ db.exportations, Done db x progs) {p q t : Codes} {rec' recq : TaxaSpans}
    (hp : dictGet? progs p = some rec') (hpq : db.Exp p q) (hq : dictGet? db.programs q = some recq)
    (ht : t ∈ recq.map (·.1)) (hm : isMeta t = false) : t ∈ rec'.map (·.1) := by
  obtain ⟨imps, hget, hmem⟩ := mem_getD_dictGet? hpq
  obtain ⟨r, er, hr⟩ := d (q, imps) (dictGet?_mem hget) p hmem recq hq t ht hm
  rw [hp] at er; cases er
  exact hr

theorem Inv.ctx_wf {db : DB} (wf : db.WF) {progs : List (Codes × TaxaSpans)} (inv : Inv db progs)
    (orc : Oracle) :
    Ctx.WF { orc := orc, programs := progs, taxa := db.taxa, exportations := db.exportations } := by
  -- a direct feature of the context is an item of the stored record
  have feat : ∀ p t,
      Features { orc := orc, programs := progs, taxa := db.taxa, exportations := db.exportations } p t →
        ∃ rec spans, (p, rec) ∈ db.programs ∧ (t, spans) ∈ rec := by
    rintro p t ⟨i, s, rec', spans, h1, h2, h3⟩
    obtain ⟨rec, e, ri⟩ := inv.recs p rec' h1
    have hne : spans ≠ [] := by rintro rfl; simp at h3
    exact ⟨rec, spans, dictGet?_mem e, (ri.items t spans hne).1 (dictGet?_mem h2)⟩
  refine ⟨fun t p => ?_, fun t p h => let ⟨rec, spans, h1, h2⟩ := feat p t h; wf.indexKey t p rec spans h1 h2,
    fun p hp => Option.isSome_iff_exists.mpr (dictGet?_of_key_mem ((wf.expKeys p).2 (inv.keys ▸ hp))),
    fun p rec h => dictGet?_key_mem h, fun q p h => (inv.keys.symm ▸ wf.expValues p q h : q ∈ progs.map (·.1)), wf.expTrans⟩
  rw [wf.index t p]
  refine ⟨?_, feat p t⟩
  rintro ⟨rec, spans, h1, h2⟩
  have hne := wf.spansNonempty p rec t spans h1 h2
  obtain ⟨rec', hrec'⟩ := dictGet?_of_key_mem (inv.keys ▸ List.mem_map.2 ⟨(p, rec), h1, rfl⟩ : p ∈ progs.map (·.1))
  obtain ⟨rec0, e0, ri⟩ := inv.recs p rec' hrec'
  rw [dictGet?_of_mem_nodup wf.progNodup h1] at e0; cases e0
  have h3 : dictGet? rec' t = some spans := dictGet?_of_mem_nodup ri.nodup ((ri.items t spans hne).2 h2)
  cases spans with
  | nil => exact absurd rfl hne
  | cons s0 rest => exact ⟨0, s0, rec', s0 :: rest, hrec', h3, rfl⟩

theorem addImported_spec (db : DB) (wf : db.WF) (orc : Oracle) :
    ∃ progs, addImported db = some progs ∧
      progs.map (·.1) = db.programs.map (·.1) ∧
      Ctx.WF { orc := orc, programs := progs, taxa := db.taxa, exportations := db.exportations } ∧
      (∀ p rec', dictGet? progs p = some rec' → ∃ rec, dictGet? db.programs p = some rec ∧
        (∀ t spans, spans ≠ [] → ((t, spans) ∈ rec' ↔ (t, spans) ∈ rec)) ∧
        (rec'.map (·.1)).Nodup ∧
        (∀ t, t ∈ rec'.map (·.1) ↔ t ∈ rec.map (·.1) ∨
          (isMeta t = false ∧ ∃ q recq, db.Exp p q ∧ dictGet? db.programs q = some recq ∧
            t ∈ recq.map (·.1)))) := by
  obtain ⟨progs, e, inv, _, d⟩ :=
    foldlM_inv addImportedStep (Inv db) (Done db) (fun x => x ∈ db.exportations) (fun _ _ _ h m => h.mono m)
      (fun s x hI hx => addImportedStep_spec db wf s x hI hx)
      db.exportations db.programs (Inv.init db wf) (fun _ h => h)
  refine ⟨progs, e, inv.keys, inv.ctx_wf wf orc, ?_⟩
  intro p rec' hp
  obtain ⟨rec, hrec, ri⟩ := inv.recs p rec' hp
  refine ⟨rec, hrec, ri.items, ri.nodup, fun t => ⟨ri.sound t, ?_⟩⟩
  rintro (h | ⟨hm, q, recq, hpq, hq, ht⟩)
  · exact ri.own t h
  · exact Inv.complete d hp hpq hq ht hm

/-- A two-program database: `b.py` imports `a.py`; `a.py` features `x` and `meta/m`, `b.py` features `y`. -/
def exampleDB : DB where
  programs := [([97, 46, 112, 121], [([120], [((1, 1) : Span)]), ([109, 101, 116, 97, 47, 109], [(2, 2)])]),
               ([98, 46, 112, 121], [([121], [(1, 3), (5, 5)])])]
  taxa := [([120], [[97, 46, 112, 121]]), ([109, 101, 116, 97, 47, 109], [[97, 46, 112, 121]]),
           ([121], [[98, 46, 112, 121]])]
  importations := [([97, 46, 112, 121], []), ([98, 46, 112, 121], [[97, 46, 112, 121]])]
  exportations := [([97, 46, 112, 121], [[98, 46, 112, 121]]), ([98, 46, 112, 121], [])]

/-- Each field, read on the entries of the three dictionaries, is a finite check. -/
theorem exampleDB_wf : exampleDB.WF where
  progNodup := by decide +kernel
  recNodup := fun p rec h =>
    (by decide +kernel : ∀ x ∈ exampleDB.programs, (x.2.map (·.1)).Nodup) (p, rec) h
  expNodup := by decide +kernel
  spansNonempty := fun p rec t spans h h2 =>
    (by decide +kernel : ∀ x ∈ exampleDB.programs, ∀ y ∈ x.2, y.2 ≠ []) (p, rec) h (t, spans) h2
  index := fun t p => by
    constructor
    · intro h
      obtain ⟨l, hl, hp⟩ := mem_getD_dictGet? h
      obtain ⟨x, hx, e, y, hy, e'⟩ := (by decide +kernel : ∀ x ∈ exampleDB.taxa, ∀ p ∈ x.2,
        ∃ y ∈ exampleDB.programs, y.1 = p ∧ ∃ z ∈ y.2, z.1 = x.1) (t, l) (dictGet?_mem hl) p hp
      exact ⟨x.2, y.2, e ▸ hx, (show y.1 = t from e') ▸ hy⟩
    · rintro ⟨rec, spans, h, h2⟩
      exact (by decide +kernel : ∀ x ∈ exampleDB.programs, ∀ y ∈ x.2, x.1 ∈ (dictGet? exampleDB.taxa y.1).getD [])
        (p, rec) h (t, spans) h2
  indexKey := fun t p rec spans h h2 =>
    (by decide +kernel : ∀ x ∈ exampleDB.programs, ∀ y ∈ x.2, y.1 ∈ exampleDB.taxa.map (·.1)) (p, rec) h (t, spans) h2
  expKeys := fun p => by simp [exampleDB]
  expValues := fun p q h => by
    obtain ⟨l, hl, hq⟩ := mem_getD_dictGet? h
    exact (by decide +kernel : ∀ x ∈ exampleDB.exportations, ∀ q ∈ x.2, q ∈ exampleDB.programs.map (·.1))
      (p, l) (dictGet?_mem hl) q hq
  expTrans := fun a b d h1 h2 => by
    obtain ⟨l1, hl1, ha⟩ := mem_getD_dictGet? h1
    obtain ⟨l2, hl2, hb⟩ := mem_getD_dictGet? h2
    exact (by decide +kernel : ∀ x ∈ exampleDB.exportations, ∀ a ∈ x.2, ∀ y ∈ exampleDB.exportations, x.1 ∈ y.2 →
      a ∈ (dictGet? exampleDB.exportations y.1).getD []) (b, l1) (dictGet?_mem hl1) a ha (d, l2) (dictGet?_mem hl2) hb

end Paroxy.Filter
