/-
The pseudo-hash factory (`HashState`) numbers the reprs 1, 2, … in order of first occurrence, so the stateful
dump `dumpS` is the pure dump `dumpP` for the hash function of the final state.
-/
import Paroxy.Proofs.FlatPath
namespace Paroxy.Flat

/-- Value of a hexadecimal digit character as produced by `Nat.digitChar`. -/
def hexVal (c : Char) : Nat :=
  if c.toNat ≤ 57 then c.toNat - 48 else c.toNat - 87

def ofHex (l : Str) (init : Nat) : Nat := l.foldl (fun a c => 16 * a + hexVal c) init

theorem hexVal_digitChar : ∀ d, d < 16 → hexVal (Nat.digitChar d) = d := by decide

theorem ofHex_append (l m : Str) (init : Nat) : ofHex (l ++ m) init = ofHex m (ofHex l init) := by
  simp [ofHex]

theorem ofHex_toDigits (n : Nat) : ofHex (Nat.toDigits 16 n) 0 = n := by
  induction n using Nat.strongRecOn with
  | _ n ih =>
    rw [Nat.toDigits_eq_if (by decide)]
    split
    · rename_i h
      simp [ofHex, hexVal_digitChar n h]
    · rename_i h
      rw [ofHex_append, ih (n / 16) (Nat.div_lt_self (by omega) (by decide))]
      simp only [ofHex, List.foldl_cons, List.foldl_nil]
      rw [hexVal_digitChar _ (Nat.mod_lt _ (by decide))]
      omega

theorem ofHex_replicate_zero (k : Nat) (l : Str) : ofHex (List.replicate k '0' ++ l) 0 = ofHex l 0 := by
  rw [ofHex_append]
  congr 1
  induction k with
  | zero => rfl
  | succ k ih => exact ih

/-- The number is read back from `f"0x{n:04x}"` (also beyond four digits). -/
theorem ofHex_hex4 (n : Nat) : ofHex ((hex4 n).drop 2) 0 = n :=
  (ofHex_replicate_zero _ _).trans (ofHex_toDigits n)

theorem hex4_injective {a b : Nat} (h : hex4 a = hex4 b) : a = b := by
  rw [← ofHex_hex4 a, h, ofHex_hex4]

theorem mem_toDigits16 (c : Char) : ∀ n, c ∈ Nat.toDigits 16 n → ∃ d, d < 16 ∧ c = Nat.digitChar d := by
  intro n
  induction n using Nat.strongRecOn with
  | _ n ih =>
    rw [Nat.toDigits_eq_if (by decide)]
    split
    · rename_i h; intro hc; simp at hc; exact ⟨n, h, hc⟩
    · rename_i h
      intro hc
      rcases List.mem_append.mp hc with hc | hc
      · exact ih (n / 16) (Nat.div_lt_self (by omega) (by decide)) hc
      · simp at hc; exact ⟨n % 16, Nat.mod_lt _ (by decide), hc⟩

theorem not_mem_hex4 {c : Char} (hx : c ≠ 'x') (hd : ∀ d, d < 16 → c ≠ Nat.digitChar d) (n : Nat) : c ∉ hex4 n := by
  intro h
  simp only [hex4, List.mem_cons, List.mem_append, List.mem_replicate] at h
  rcases h with h | h | ⟨_, h⟩ | h
  · exact hd 0 (by decide) h
  · exact hx h
  · exact hd 0 (by decide) h
  · obtain ⟨d, hd', e⟩ := mem_toDigits16 _ _ h
    exact hd d hd' e

theorem eq_not_mem_hashFn (t : Val) (r : Str) : '=' ∉ hashFn t r := not_mem_hex4 (by decide) (by decide) _

def HashState.keys (s : HashState) : List Str := s.cache.map (·.1)

/-- Invariant of the factory: the numbers given are 1, 2, …, `i` in insertion order. -/
def HashState.Inv (s : HashState) : Prop := s.cache.map (·.2) = List.range' 1 s.i

theorem lookup_eq_none_iff {x : Str} {l : List (Str × Nat)} : l.lookup x = none ↔ x ∉ l.map (·.1) := by
  rw [List.lookup_eq_none_iff, List.mem_map]
  exact ⟨fun h ⟨p, hp, e⟩ => bne_iff_ne.mp (h p hp) e.symm,
    fun h p hp => bne_iff_ne.mpr fun e => h ⟨p, hp, e.symm⟩⟩

theorem lookup_append_of_mem {x : Str} {l m : List (Str × Nat)} (h : x ∈ l.map (·.1)) :
    (l ++ m).lookup x = l.lookup x := by
  rw [List.lookup_append]
  cases hl : l.lookup x with
  | none => exact absurd h (lookup_eq_none_iff.mp hl)
  | some v => rfl

theorem lookup_append_of_not_mem {x : Str} {l m : List (Str × Nat)} (h : x ∉ l.map (·.1)) :
    (l ++ m).lookup x = m.lookup x := by
  rw [List.lookup_append, lookup_eq_none_iff.mpr h]; rfl

theorem mem_of_lookup {x : Str} {v : Nat} {l : List (Str × Nat)} (h : l.lookup x = some v) : (x, v) ∈ l := by
  obtain ⟨l₁, l₂, rfl, -⟩ := List.lookup_eq_some_iff.mp h
  exact List.mem_append_right _ List.mem_cons_self

theorem HashState.mem_keys_touch (s : HashState) (x : Str) : x ∈ (s.touch x).keys := by
  unfold HashState.touch
  cases h : s.cache.lookup x with
  | some v => exact List.mem_map.mpr ⟨_, mem_of_lookup h, rfl⟩
  | none => exact List.mem_map.mpr ⟨_, List.mem_append_right _ (List.mem_singleton_self _), rfl⟩

theorem HashState.touch_of_mem (s : HashState) (x : Str) {y : Str} (h : y ∈ s.keys) :
    y ∈ (s.touch x).keys ∧ (s.touch x).get y = s.get y := by
  unfold HashState.touch HashState.get
  cases s.cache.lookup x with
  | some v => exact ⟨h, rfl⟩
  | none =>
    refine ⟨?_, congrArg (·.getD 0) (lookup_append_of_mem h)⟩
    rw [HashState.keys, List.map_append]
    exact List.mem_append_left _ h

theorem HashState.touchAll_of_mem (s : HashState) (rs : List Str) {y : Str} (h : y ∈ s.keys) :
    y ∈ (touchAll s rs).keys ∧ (touchAll s rs).get y = s.get y := by
  induction rs generalizing s with
  | nil => exact ⟨h, rfl⟩
  | cons r rs ih =>
    obtain ⟨h1, h2⟩ := s.touch_of_mem r h
    exact ⟨(ih (s.touch r) h1).1, (ih (s.touch r) h1).2.trans h2⟩

theorem HashState.mem_keys_touchAll (s : HashState) (rs : List Str) (y : Str) (h : y ∈ rs) :
    y ∈ (touchAll s rs).keys := by
  induction rs generalizing s with
  | nil => cases h
  | cons r rs ih =>
    rcases List.mem_cons.mp h with rfl | h
    · exact ((s.touch y).touchAll_of_mem rs (s.mem_keys_touch y)).1
    · exact ih (s.touch r) h

theorem touchAll_append (s : HashState) (a b : List Str) :
    touchAll s (a ++ b) = touchAll (touchAll s a) b := List.foldl_append

theorem HashState.inv_touch (s : HashState) (x : Str) (h : s.Inv) : (s.touch x).Inv := by
  unfold HashState.touch
  cases s.cache.lookup x with
  | some v => exact h
  | none =>
    show List.map _ (_ ++ _) = _
    rw [List.map_append, h, List.range'_1_concat, Nat.add_comm]; rfl

theorem HashState.inv_touchAll (s : HashState) (rs : List Str) (h : s.Inv) : (touchAll s rs).Inv := by
  induction rs generalizing s with
  | nil => exact h
  | cons r rs ih => exact ih (s.touch r) (s.inv_touch r h)

theorem inj_of_nodup_map {α β : Type} (f : α → β) : ∀ {l : List α}, (l.map f).Nodup →
    ∀ {a b}, a ∈ l → b ∈ l → f a = f b → a = b
  | [], _, a, _, ha, _, _ => by cases ha
  | c :: l, h, a, b, ha, hb, e => by
    obtain ⟨h1, h2⟩ := List.nodup_cons.mp h
    rcases List.mem_cons.mp ha with rfl | ha' <;> rcases List.mem_cons.mp hb with rfl | hb'
    · rfl
    · exact absurd (e ▸ List.mem_map_of_mem hb') h1
    · exact absurd (e ▸ List.mem_map_of_mem ha') h1
    · exact inj_of_nodup_map f h2 ha' hb' e

theorem HashState.get_injective (s : HashState) (h : s.Inv) {x y : Str} (hx : x ∈ s.keys) (hy : y ∈ s.keys)
    (e : s.get x = s.get y) : x = y := by
  unfold HashState.get at e
  cases hlx : s.cache.lookup x with
  | none => exact absurd hx (lookup_eq_none_iff.mp hlx)
  | some vx =>
    cases hly : s.cache.lookup y with
    | none => exact absurd hy (lookup_eq_none_iff.mp hly)
    | some vy =>
      rw [hlx, hly] at e
      have hv : (s.cache.map (·.2)).Nodup := h ▸ List.nodup_range'
      exact congrArg Prod.fst (inj_of_nodup_map (·.2) hv (mem_of_lookup hlx) (mem_of_lookup hly) e)

/-- Threading the factory through the dump touches the reprs of the expression nodes in pre-order, and the hash
texts printed on the way are the final ones (`later` = the reprs touched afterwards). -/
theorem dumpS_spec_all :
    (∀ v pre path s later,
      (dumpS pre path v s).2 = touchAll s (exprReprs v) ∧
      (dumpS pre path v s).1 =
        dumpP (fun r => hex4 ((touchAll s (exprReprs v ++ later)).get r)) pre path v) ∧
    (∀ fs pre path i s later,
      (dumpSFields pre path i fs s).2 = touchAll s (exprReprsFields fs) ∧
      (dumpSFields pre path i fs s).1 =
        dumpPFields (fun r => hex4 ((touchAll s (exprReprsFields fs ++ later)).get r)) pre path i fs) ∧
    (∀ xs pre path i s later,
      (dumpSItems pre path i xs s).2 = touchAll s (exprReprsItems xs) ∧
      (dumpSItems pre path i xs s).1 =
        dumpPItems (fun r => hex4 ((touchAll s (exprReprsItems xs ++ later)).get r)) pre path i xs) := by
  refine Val.induction ?_ ?_ ?_ ?_ ?_ ?_ ?_
  · intro ty e r ln fs ih pre path s later
    cases e with
    | false =>
      have ih := ih pre path 0 s later
      cases ln <;> exact ⟨ih.1, congrArg (fun X => typeLine pre ty :: (_ ++ X)) ih.2⟩
    | true =>
      have ih := ih pre path 0 (s.touch r) later
      -- the number of `r` is the one it has after `touch`: later touches do not change it
      have hr : (touchAll (s.touch r) (exprReprsFields fs ++ later)).get r = (s.touch r).get r :=
        ((s.touch r).touchAll_of_mem _ (s.mem_keys_touch r)).2
      cases ln <;> exact ⟨ih.1,
        congr (congrArg (fun x X => typeLine pre ty :: ([hashLine pre (hex4 x)] ++ _ ++ X)) hr.symm) ih.2⟩
  · exact fun q xs ih pre path s later =>
      ⟨(ih pre path 1 s later).1, congrArg (_ ++ ·) (ih pre path 1 s later).2⟩
  · exact fun r k pre path s later => ⟨rfl, rfl⟩
  · exact fun pre path i s later => ⟨rfl, rfl⟩
  · intro n v rest hv hrest pre path i s later
    have h1 := hv (subPre pre n) (subPath path i) s (exprReprsFields rest ++ later)
    have h2 := hrest pre path (i + 1) (dumpS (subPre pre n) (subPath path i) v s).2 later
    -- the state after `v` is `s` touched by the reprs of `v`
    refine ⟨h2.1.trans ?_, (congr (congrArg _ h1.2) h2.2).trans ?_⟩
    · rw [h1.1, ← touchAll_append]; rfl
    · rw [h1.1, ← touchAll_append, ← List.append_assoc]; rfl
  · exact fun pre path i s later => ⟨rfl, rfl⟩
  · intro v rest hv hrest pre path i s later
    have h1 := hv (subPre pre (dec i)) (subPath path i) s (exprReprsItems rest ++ later)
    have h2 := hrest pre path (i + 1) (dumpS (subPre pre (dec i)) (subPath path i) v s).2 later
    refine ⟨h2.1.trans ?_, (congr (congrArg _ h1.2) h2.2).trans ?_⟩
    · rw [h1.1, ← touchAll_append]; rfl
    · rw [h1.1, ← touchAll_append, ← List.append_assoc]; rfl

theorem dumpSFields_spec (pre path : Str) (i : Nat) : ∀ (fs : List (Str × Val)) (s : HashState) (later : List Str),
    (dumpSFields pre path i fs s).2 = touchAll s (exprReprsFields fs) ∧
    (dumpSFields pre path i fs s).1 =
      dumpPFields (fun r => hex4 ((touchAll s (exprReprsFields fs ++ later)).get r)) pre path i fs :=
  fun fs => dumpS_spec_all.2.1 fs pre path i

theorem dumpSItems_spec (pre path : Str) (i : Nat) : ∀ (xs : List Val) (s : HashState) (later : List Str),
    (dumpSItems pre path i xs s).2 = touchAll s (exprReprsItems xs) ∧
    (dumpSItems pre path i xs s).1 =
      dumpPItems (fun r => hex4 ((touchAll s (exprReprsItems xs ++ later)).get r)) pre path i xs :=
  fun xs => dumpS_spec_all.2.2 xs pre path i

/-- `flatten_node` from a fresh factory = the pure dump with the first-occurrence numbering. -/
theorem dumpS_reset (v : Val) :
    dumpS [] [] v HashState.reset = (dumpP (hashFn v) [] [] v, touchAll HashState.reset (exprReprs v)) := by
  have h := dumpS_spec_all.1 v [] [] HashState.reset []
  simp only [List.append_nil] at h
  exact Prod.ext h.2 h.1

/-- The numbering of one flattening: equal hash texts iff equal context-free reprs. -/
theorem hashFn_eq_iff (t : Val) {r1 r2 : Str} (h1 : r1 ∈ exprReprs t) (h2 : r2 ∈ exprReprs t) :
    hashFn t r1 = hashFn t r2 ↔ r1 = r2 := by
  constructor
  · intro h
    have inv := HashState.inv_touchAll HashState.reset (exprReprs t) rfl
    exact HashState.get_injective _ inv (HashState.mem_keys_touchAll _ _ _ h1)
      (HashState.mem_keys_touchAll _ _ _ h2) (hex4_injective h)
  · intro h; rw [h]

theorem exprReprsFields_eq (fs : List (Str × Val)) : exprReprsFields fs = fs.flatMap (exprReprs ·.2) := by
  induction fs with
  | nil => rfl
  | cons f fs ih => rw [List.flatMap_cons, ← ih]; rfl

theorem exprReprsItems_eq (xs : List Val) : exprReprsItems xs = xs.flatMap exprReprs := by
  induction xs with
  | nil => rfl
  | cons v xs ih => rw [List.flatMap_cons, ← ih]; rfl

theorem exprReprs_subset_of_at {v w : Val} {q : List Nat} {ns : List Str} (h : At v q ns w) :
    exprReprs w ⊆ exprReprs v := by
  induction h with
  | here => exact List.Subset.refl _
  | @field ty e r ln fs k n c q ns w hk _ ih =>
    refine fun x hx => List.mem_append_right _ ?_
    rw [exprReprsFields_eq]
    exact List.mem_flatMap.mpr ⟨_, List.mem_of_getElem? hk, ih hx⟩
  | @item qt xs k c q ns w hk _ ih =>
    intro x hx
    show x ∈ exprReprsItems xs
    rw [exprReprsItems_eq]
    exact List.mem_flatMap.mpr ⟨_, List.mem_of_getElem? hk, ih hx⟩

theorem mem_exprReprs_of_at {v : Val} {q : List Nat} {ns : List Str} {ty r ln fs}
    (h : At v q ns (.node ty true r ln fs)) : r ∈ exprReprs v :=
  exprReprs_subset_of_at h List.mem_cons_self

end Paroxy.Flat
