/-
The executable (`…B`) forms of the three clauses of C10 are equivalent to the clauses: spans that
occur nowhere have count 0 on both sides, so bounding the quantifier over spans loses nothing.
-/
import Paroxy.Spec.Dedup
import Paroxy.Proofs.Bag
import Paroxy.Proofs.DedupLift
namespace Paroxy.DedupSpec
open Paroxy Paroxy.Dedup Paroxy.Spec.Dedup
set_option linter.unusedSectionVars false
variable {ν σ : Type} [DecidableEq ν] [DecidableEq σ]

theorem noInventionB_iff (T out : List (ν × Bag σ)) :
    noInventionB T out = true ↔ NoInvention T out := by
  simp only [noInventionB, NoInvention, List.all_eq_true, Bool.and_eq_true, decide_eq_true_eq,
    List.contains_iff_mem]

theorem keys_bagOf_subset (T : List (ν × Bag σ)) (n : ν) :
    ∀ s ∈ (bagOf T n).map Prod.fst, s ∈ spansOf T :=
  DedupLift.bagOf_isLookup.ind (P := fun b => ∀ s ∈ b.map Prod.fst, s ∈ spansOf T) nofun
    (fun e he _ hs => List.mem_flatMap.mpr ⟨e, he, hs⟩) n

theorem cnt_eq_zero_of_not_mem {T : List (ν × Bag σ)} {s : σ} (h : s ∉ spansOf T) (n : ν) :
    cnt T n s = 0 :=
  Bag.count_eq_zero_of_not_mem fun hs => h (keys_bagOf_subset T n s hs)

/-- A property that holds of the spans occurring nowhere need only be checked on those that occur. -/
theorem forall_spans {T out : List (ν × Bag σ)} {Q : σ → Prop}
    (h : ∀ s, s ∉ spansOf T → s ∉ spansOf out → Q s) :
    (∀ s ∈ spansOf T ++ spansOf out, Q s) ↔ ∀ s, Q s :=
  ⟨fun hq s => Decidable.byCases (fun hs : s ∈ spansOf T ++ spansOf out => hq s hs)
    fun hs => h s (fun h1 => hs (List.mem_append_left _ h1)) fun h2 => hs (List.mem_append_right _ h2),
   fun hq s _ => hq s⟩

variable (desc : ν → ν → Bool)

theorem unsharedKeptB_iff (T out : List (ν × Bag σ)) :
    unsharedKeptB desc T out = true ↔ UnsharedKept desc T out := by
  simp only [unsharedKeptB, UnsharedKept, List.all_eq_true, Bool.or_eq_true, Bool.not_eq_true',
    decide_eq_true_eq]
  refine forall₂_congr fun n _ => ?_
  rw [forall_spans fun s h1 h2 => Or.inr (by rw [cnt_eq_zero_of_not_mem h1, cnt_eq_zero_of_not_mem h2])]
  refine forall_congr' fun s => ?_
  rw [← Bool.not_eq_true, List.all_eq_true, ← Decidable.imp_iff_not_or]
  refine imp_congr_left (forall₂_congr fun d _ => ?_)
  cases desc n d <;> simp

theorem coveredLostB_iff (T out : List (ν × Bag σ)) :
    coveredLostB desc T out = true ↔ CoveredLost desc T out := by
  simp only [coveredLostB, CoveredLost, List.all_eq_true, Bool.or_eq_true, Bool.not_eq_true',
    Bool.and_eq_false_iff, decide_eq_false_iff_not, decide_eq_true_eq]
  refine forall₂_congr fun n _ => ?_
  rw [forall_spans fun s _ h2 => Or.inr (cnt_eq_zero_of_not_mem h2 n)]
  refine forall_congr' fun s => ?_
  rw [← Decidable.not_and_iff_not_or_not, ← Decidable.imp_iff_not_or, and_imp]

theorem goodBagsB_iff (T : List (ν × Bag σ)) : goodBagsB T = true ↔ GoodBags T := by
  simp [goodBagsB, GoodBags, List.all_eq_true]

end Paroxy.DedupSpec
