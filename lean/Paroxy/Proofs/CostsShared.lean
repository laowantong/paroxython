/- The assessor whose knowledge set is shared and mutated in place (Model/CostsShared.lean): its memo is the
image of the snapshot machine's snapshots under `snapEntry`, and a disciplined history keeps `MemoOk`. -/
import Paroxy.Proofs.Costs
import Paroxy.Model.CostsShared
namespace Paroxy.Costs
open Paroxy Paroxy.Filter

theorem heapGet_heapSet (h : Heap) (a b : Nat) (v : List Codes) :
    heapGet (heapSet h a v) b = if a = b then v else heapGet h b := rfl

/-- The cached entry of a snapshot: the pure cost under the knowledge recorded. -/
def snapEntry (strat : Strategy) (e : Codes × List Codes) : Codes × Rat := (e.1, taxonCost strat e.2 e.1)

theorem dictGet?_snapEntry (strat : Strategy) (snap : List (Codes × List Codes)) (t : Codes) :
    dictGet? (snap.map (snapEntry strat)) t = (dictGet? snap t).map fun K => taxonCost strat K t := by
  induction snap with
  | nil => rfl
  | cons e r ih =>
    obtain ⟨k, K⟩ := e
    simp only [List.map_cons, snapEntry, dictGet?]
    split
    · rename_i he; subst he; rfl
    · exact ih

theorem memoCost_snap (strat : Strategy) (K : List Codes) (snap : List (Codes × List Codes)) (t : Codes) :
    memoCost strat ⟨K, snap.map (snapEntry strat)⟩ t =
      (⟨K, (gCost strat K snap t).1.map (snapEntry strat)⟩, (gCost strat K snap t).2) := by
  unfold memoCost gCost snapOf
  simp only [dictGet?_snapEntry]
  cases dictGet? snap t with
  | some K0 => rfl
  | none => simp [snapEntry]

theorem gProgramCost_cons (strat : Strategy) (K : List Codes) (snap : List (Codes × List Codes))
    (x : Codes × List Span) (l : TaxaSpans) :
    gProgramCost strat K snap (x :: l) =
      ((gProgramCost strat K (gCost strat K snap x.1).1 l).1,
        (gCost strat K snap x.1).2 + (gProgramCost strat K (gCost strat K snap x.1).1 l).2) := by
  unfold gProgramCost
  simp only [List.foldl_cons]
  rw [foldl_cost_acc (fun (sn : List (Codes × List Codes)) (ts : Codes × List Span) => gCost strat K sn ts.1),
    Rat.zero_add]

theorem memoProgramCost_snap (strat : Strategy) (K : List Codes) (rec : TaxaSpans) (snap : List (Codes × List Codes)) :
    memoProgramCost strat ⟨K, snap.map (snapEntry strat)⟩ rec =
      (⟨K, (gProgramCost strat K snap rec).1.map (snapEntry strat)⟩, (gProgramCost strat K snap rec).2) := by
  induction rec generalizing snap with
  | nil => rfl
  | cons x l ih => rw [memoProgramCost_cons, gProgramCost_cons, memoCost_snap, ih]

theorem memoAssess_snap (strat : Strategy) (progs : List (Codes × TaxaSpans)) (K : List Codes) (sel : List Codes)
    (snap : List (Codes × List Codes)) :
    memoAssess strat progs ⟨K, snap.map (snapEntry strat)⟩ sel =
      (⟨K, (gAssess strat progs K snap sel).1.map (snapEntry strat)⟩, (gAssess strat progs K snap sel).2) := by
  induction sel generalizing snap with
  | nil => rfl
  | cons p ps ih =>
    unfold memoAssess gAssess
    cases dictGet? progs p with
    | none => rfl
    | some rec => simp only [memoProgramCost_snap, ih]

/-- `snap'` extends `snap` under current knowledge `K`: nothing recorded is replaced, and whatever is new
records `K`. -/
def SnapExt (K : List Codes) (snap snap' : List (Codes × List Codes)) : Prop :=
  (∀ t K0, dictGet? snap t = some K0 → dictGet? snap' t = some K0) ∧
  (∀ t K1, dictGet? snap' t = some K1 → dictGet? snap t = some K1 ∨ (dictGet? snap t = none ∧ K1 = K))

theorem SnapExt.refl (K : List Codes) (snap : List (Codes × List Codes)) : SnapExt K snap snap :=
  ⟨fun _ _ h => h, fun _ _ h => Or.inl h⟩

theorem SnapExt.trans {K : List Codes} {a b c : List (Codes × List Codes)} (h1 : SnapExt K a b) (h2 : SnapExt K b c) :
    SnapExt K a c := by
  refine ⟨fun t K0 h => h2.1 t K0 (h1.1 t K0 h), fun t K1 h => ?_⟩
  rcases h2.2 t K1 h with hb | ⟨hb, rfl⟩
  · exact h1.2 t K1 hb
  · cases ha : dictGet? a t with
    | none => exact Or.inr ⟨rfl, rfl⟩
    | some K0 => rw [h1.1 t K0 ha] at hb; cases hb

theorem gCost_ext (strat : Strategy) (K : List Codes) (snap : List (Codes × List Codes)) (t : Codes) :
    SnapExt K snap (gCost strat K snap t).1 := by
  unfold gCost
  cases hg : dictGet? snap t with
  | some K0 => exact SnapExt.refl K snap
  | none =>
    exact ⟨fun t' K0 h => (dictGet?_append_single ..).mpr (Or.inl h),
      fun t' K1 h => ((dictGet?_append_single ..).mp h).imp_right fun ⟨hn, _, e⟩ => ⟨hn, e.symm⟩⟩

theorem gProgramCost_ext (strat : Strategy) (K : List Codes) (rec : TaxaSpans) (snap : List (Codes × List Codes)) :
    SnapExt K snap (gProgramCost strat K snap rec).1 := by
  induction rec generalizing snap with
  | nil => exact SnapExt.refl K snap
  | cons x l ih => rw [gProgramCost_cons]; exact (gCost_ext strat K snap x.1).trans (ih _)

theorem gAssess_ext (strat : Strategy) (progs : List (Codes × TaxaSpans)) (K : List Codes) (sel : List Codes)
    (snap : List (Codes × List Codes)) : SnapExt K snap (gAssess strat progs K snap sel).1 := by
  induction sel generalizing snap with
  | nil => exact SnapExt.refl K snap
  | cons p ps ih =>
    unfold gAssess
    cases dictGet? progs p with
    | none => exact SnapExt.refl K snap
    | some rec => exact (gProgramCost_ext strat K rec snap).trans (ih _)

/-- The state of the memo machine whose cache is the image of the snapshots. -/
def GState.memoState (strat : Strategy) (g : GState) : SState := ⟨g.heap, g.ptr, g.snap.map (snapEntry strat)⟩

theorem sstep_gstep (strat : Strategy) (progs : List (Codes × TaxaSpans)) (g : GState) (op : SOp) :
    sstep strat progs (g.memoState strat) op =
      ((gstep strat progs g op).1.memoState strat, (gstep strat progs g op).2) := by
  cases op with
  | mutateKnowledge a add del => rfl
  | setKnowledge a => rfl
  | foreignClear => rfl
  | taxonCost t =>
    simp only [GState.memoState, sstep, gstep, SState.view, SState.knowledge, GState.knowledge, memoCost_snap]
  | assess sel =>
    simp only [GState.memoState, sstep, gstep, SState.view, SState.knowledge, GState.knowledge, memoAssess_snap]

theorem srun_grun (strat : Strategy) (progs : List (Codes × TaxaSpans)) (ops : List SOp) (g : GState) :
    srun strat progs (g.memoState strat) ops = grun strat progs g ops := by
  induction ops generalizing g with
  | nil => rfl
  | cons op r ih =>
    simp only [srun, grun]
    rw [sstep_gstep, ih]
    rfl

/-- A costing step replaces the memo and keeps the knowledge: the assessor's view afterwards is the state the
memoised function returns. -/
theorem MemoOk.view {strat : Strategy} {s : SState} {a : AState} (h : MemoOk strat a) (hk : a.knowledge = s.knowledge) :
    MemoOk strat ({ s with memo := a.memo } : SState).view := by
  cases a; cases hk; exact h

theorem disciplined_sound (strat : Strategy) (progs : List (Codes × TaxaSpans)) (ops : List SOp) (s : SState) (dirty : Bool)
    (hs : dirty = false → MemoOk strat s.view) (hd : disciplined s.ptr dirty ops = true) :
    ∀ e ∈ srun strat progs s ops, e.2.2 = pureOutS strat progs e.1 e.2.1 := by
  induction ops generalizing s dirty with
  | nil => intro e he; cases he
  | cons op r ih =>
    -- one step: the output is the pure one, and the invariant holds again with the new `dirty`
    have step : (sstep strat progs s op).2 = pureOutS strat progs s.knowledge op ∧
        ∃ dirty', (dirty' = false → MemoOk strat (sstep strat progs s op).1.view) ∧
          disciplined (sstep strat progs s op).1.ptr dirty' r = true := by
      cases op with
      | mutateKnowledge a add del =>
        refine ⟨rfl, dirty || a == s.ptr, fun hdirty => ?_, hd⟩
        simp only [Bool.or_eq_false_iff, beq_eq_false_iff_ne] at hdirty
        have hk : (sstep strat progs s (.mutateKnowledge a add del)).1.view = s.view := by
          simp only [sstep, SState.view, SState.knowledge, heapGet_heapSet, if_neg hdirty.2]
        rw [hk]; exact hs hdirty.1
      | setKnowledge a => exact ⟨rfl, false, fun _ => MemoOk.nil strat _, hd⟩
      | foreignClear => exact ⟨rfl, dirty, fun _ => MemoOk.nil strat _, hd⟩
      | taxonCost t =>
        simp only [disciplined, Bool.and_eq_true, Bool.not_eq_true'] at hd
        obtain ⟨e1, e2⟩ := memoCost_spec strat s.view t (hs hd.1)
        exact ⟨congrArg AOut.cost e1, dirty, fun _ => e2.view (memoCost_knowledge strat s.view t), hd.2⟩
      | assess sel =>
        simp only [disciplined, Bool.and_eq_true, Bool.not_eq_true'] at hd
        obtain ⟨e1, e2⟩ := memoAssess_spec strat progs sel s.view (hs hd.1)
        refine ⟨?_, dirty, fun _ => e2.view (memoAssess_knowledge strat progs sel s.view), hd.2⟩
        show AOut.ranking _ = AOut.ranking _
        rw [e1, assess_eq]; rfl
    obtain ⟨h1, dirty', h2, h3⟩ := step
    intro e he
    rcases List.mem_cons.mp he with rfl | he
    · exact h1
    · exact ih _ dirty' h2 h3 e he

theorem disciplined_muts (a : Nat) (muts : List (List Codes)) (l2 : List SOp)
    (h1 : ∀ p d, disciplined p d l2 = true) (p : Nat) (d : Bool) :
    disciplined p d (muts.map (fun add => SOp.mutateKnowledge a add []) ++ l2) = true := by
  induction muts generalizing d with
  | nil => exact h1 p d
  | cons m r ih => exact ih _

theorem disciplined_queries (p : Nat) (qs : List Codes) (rest : List SOp) (h : ∀ p d, disciplined p d rest = true) :
    disciplined p false (qs.map SOp.taxonCost ++ rest) = true := by
  induction qs with
  | nil => exact h p false
  | cons q r ih => simpa [disciplined] using ih

theorem pipelineOps_disciplined (addr : Nat) (rounds : List Round) (p : Nat) (d : Bool) :
    disciplined p d (pipelineOps addr rounds) = true := by
  induction rounds generalizing p d with
  | nil => rfl
  | cons r rs ih =>
    unfold pipelineOps at ih ⊢
    simp only [List.flatMap_cons, roundOps, List.append_assoc]
    refine disciplined_muts addr _ _ (fun p d => ?_) p d
    simp only [List.cons_append, disciplined, Bool.not_false, Bool.true_and]
    exact disciplined_queries addr r.queries _ ih

end Paroxy.Costs
