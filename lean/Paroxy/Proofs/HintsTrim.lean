/-
Helper lemmas for C12: `regex.sub(r"\A(\s*\n)+|\s+\Z", "", text)` on a text whose lines are either
empty or end with a character that is not white space removes exactly the empty lines at both ends
(`trimEnds_joinNL`). On any text, what it removes in front ends with a line break (`trimEnds_decomp`).
-/
import Paroxy.Proofs.HintsChars
namespace Paroxy.Hints

variable {O : CharOracle}

/-- The lines without the empty ones that begin and end the list. -/
def coreLines (ls : List Str) : List Str := trimBoth (·.isEmpty) ls

/-- A line (no line break in it) that is empty or ends with a character that is not white space. -/
def TightLine (O : CharOracle) (l : Str) : Prop := '\n' ∉ l ∧ ∀ x, l.getLast? = some x → (isSpaceRe O) x = false

theorem joinNL_append (a b : List Str) (ha : a ≠ []) (hb : b ≠ []) :
    joinNL (a ++ b) = joinNL a ++ '\n' :: joinNL b := by
  induction a with
  | nil => exact absurd rfl ha
  | cons x t ih =>
    cases t with
    | nil =>
      cases b with
      | nil => exact absurd rfl hb
      | cons y ys => simp [joinNL]
    | cons x2 t2 =>
      have := ih (by simp)
      simp only [List.cons_append] at this ⊢
      rw [joinNL_cons_cons, this, joinNL_cons_cons]; simp

theorem joinNL_replicate_nil (k : Nat) : joinNL (List.replicate (k + 1) []) = List.replicate k '\n' := by
  induction k with
  | zero => rfl
  | succ k ih =>
    rw [List.replicate_succ, List.replicate_succ, joinNL_cons_cons, ← List.replicate_succ, ih, List.replicate_succ]
    rfl

theorem joinNL_replicate_append (k : Nat) (x : Str) (xs : List Str) :
    joinNL (List.replicate k [] ++ (x :: xs)) = List.replicate k '\n' ++ joinNL (x :: xs) := by
  cases k with
  | zero => rfl
  | succ k =>
    rw [joinNL_append _ _ (by simp) (by simp), joinNL_replicate_nil, List.replicate_succ']
    simp

theorem joinNL_append_replicate (front : List Str) (k : Nat) (h : front ≠ []) :
    joinNL (front ++ List.replicate k []) = joinNL front ++ List.replicate k '\n' := by
  cases k with
  | zero => simp
  | succ k =>
    rw [joinNL_append front _ h (by simp [List.replicate_succ]), joinNL_replicate_nil, List.replicate_succ]

theorem keepAfterLastNL_newlines (k : Nat) (w : Str) (hw : '\n' ∉ w) :
    keepAfterLastNL (List.replicate k '\n' ++ w) = w := by
  unfold keepAfterLastNL
  cases k with
  | zero =>
    have : w.contains '\n' = false := by simpa using hw
    simp only [List.replicate_zero, List.nil_append, this, Bool.false_eq_true, if_false]
  | succ k =>
    have hc : (List.replicate (k + 1) '\n' ++ w).contains '\n' = true := by simp [List.replicate_succ]
    have hall : ∀ c ∈ w.reverse, (c != '\n') = true := by
      intro c hc
      have : c ≠ '\n' := fun e => hw (e ▸ List.mem_reverse.mp hc)
      simpa using this
    rw [if_pos hc, List.reverse_append, List.takeWhile_append_of_pos hall, List.reverse_replicate,
      List.replicate_succ, List.takeWhile_cons_of_neg (by simp)]
    simp

theorem lead_trim (k : Nat) (l : Str) (rest : List Str) (ht : (TightLine O) l) (hne : l ≠ []) :
    let T := List.replicate k '\n' ++ joinNL (l :: rest)
    keepAfterLastNL (T.takeWhile (isSpaceRe O)) ++ T.dropWhile (isSpaceRe O) = joinNL (l :: rest) := by
  intro T
  obtain ⟨X, hX⟩ := joinNL_cons_eq l rest
  have hex : ∃ c ∈ l, (isSpaceRe O) c = false := exists_of_getLast hne ht.2
  have hnl : ∀ c ∈ List.replicate k '\n', (isSpaceRe O) c = true := by
    intro c hc; rw [(List.mem_replicate.mp hc).2]; rfl
  have htw : T.takeWhile (isSpaceRe O) = List.replicate k '\n' ++ l.takeWhile (isSpaceRe O) := by
    simp only [T]
    rw [List.takeWhile_append_of_pos hnl, hX, takeWhile_append_of_exists l X hex]
  have hdw : T.dropWhile (isSpaceRe O) = (joinNL (l :: rest)).dropWhile (isSpaceRe O) := by
    simp only [T]
    rw [List.dropWhile_append_of_pos hnl]
  rw [htw, keepAfterLastNL_newlines k _ (fun h => ht.1 ((List.takeWhile_sublist _).subset h)), hdw,
    ← takeWhile_append_of_exists l X hex, ← hX, List.takeWhile_append_dropWhile]

theorem trail_trim (front : List Str) (last : Str) (k : Nat) (hl : front.getLast? = some last)
    (ht : (TightLine O) last) (hne : last ≠ []) :
    ((joinNL front ++ List.replicate k '\n').reverse.dropWhile (isSpaceRe O)).reverse = joinNL front := by
  rw [List.reverse_append, List.reverse_replicate,
    List.dropWhile_append_of_pos (by intro c hc; rw [(List.mem_replicate.mp hc).2]; rfl),
    dropWhile_eq_self, List.reverse_reverse]
  intro x hx
  rw [List.head?_reverse, joinNL_getLast? front last hl hne] at hx
  exact ht.2 x hx

theorem all_empty_eq_replicate (l : List Str) (h : ∀ x ∈ l, x.isEmpty = true) : l = List.replicate l.length [] :=
  List.eq_replicate_iff.mpr ⟨rfl, fun b hb => by simpa using h b hb⟩

theorem coreLines_decomp (ls : List Str) (hne : coreLines ls ≠ []) :
    ∃ k k' l rest last, ls = List.replicate k [] ++ (coreLines ls ++ List.replicate k' []) ∧
      coreLines ls = l :: rest ∧ l ≠ [] ∧ (coreLines ls).getLast? = some last ∧ last ≠ [] := by
  obtain ⟨pre, suf, hdec, hpre, hsuf⟩ := trimBoth_decomp (·.isEmpty) ls
  obtain ⟨l, rest, hc⟩ := List.exists_cons_of_ne_nil hne
  have hnot : ∀ x : Str, x.isEmpty = false → x ≠ [] := fun x h e => by rw [e] at h; cases h
  refine ⟨pre.length, suf.length, l, rest, (coreLines ls).getLast hne, ?_, hc, ?_,
    List.getLast?_eq_some_getLast hne, ?_⟩
  · rw [← all_empty_eq_replicate pre hpre, ← all_empty_eq_replicate suf hsuf]; exact hdec
  · exact hnot l (trimBoth_head _ ls l (by rw [← coreLines, hc]; rfl))
  · exact hnot _ (trimBoth_getLast _ ls _ (List.getLast?_eq_some_getLast hne))

theorem trimEnds_joinNL (ls : List Str) (ht : ∀ l ∈ ls, (TightLine O) l) (hne : coreLines ls ≠ []) :
    (trimEnds O) (joinNL ls) = joinNL (coreLines ls) := by
  obtain ⟨k, k', l, rest, last, hdec, hcore, hl, hlast, hlastne⟩ := coreLines_decomp ls hne
  have hmem : ∀ x ∈ coreLines ls, x ∈ ls := fun x hx => (trimBoth_sublist _ ls).subset hx
  have htl : (TightLine O) l := ht l (hmem l (by rw [hcore]; simp))
  have htlast : (TightLine O) last := ht last (hmem last (List.mem_of_getLast? hlast))
  have hj : joinNL ls = List.replicate k '\n' ++ joinNL (l :: (rest ++ List.replicate k' [])) := by
    conv => lhs; rw [hdec, hcore]
    rw [List.cons_append, joinNL_replicate_append]
  have hj2 : joinNL (l :: (rest ++ List.replicate k' [])) = joinNL (coreLines ls) ++ List.replicate k' '\n' := by
    rw [← List.cons_append, ← hcore, joinNL_append_replicate _ _ hne]
  unfold trimEnds
  simp only [hj]
  rw [lead_trim k l _ htl hl, hj2, trail_trim _ last k' hlast htlast hlastne]

theorem trimEnds_decomp (s : Str) :
    ∃ A B, s = A ++ ((trimEnds O) s ++ B) ∧ (A = [] ∨ ∃ A', A = A' ++ ['\n']) := by
  have hlead : ∃ A, s = A ++ (keepAfterLastNL (s.takeWhile (isSpaceRe O)) ++ s.dropWhile (isSpaceRe O)) ∧
      (A = [] ∨ ∃ A', A = A' ++ ['\n']) := by
    unfold keepAfterLastNL
    split
    · let W := s.takeWhile (isSpaceRe O)
      let q : Char → Bool := fun c => c != '\n'
      refine ⟨(W.reverse.dropWhile q).reverse, ?_, ?_⟩
      · have hW : W = (W.reverse.dropWhile q).reverse ++ (W.reverse.takeWhile q).reverse := by
          rw [← List.reverse_append, List.takeWhile_append_dropWhile, List.reverse_reverse]
        rw [← List.append_assoc, ← hW]
        exact (List.takeWhile_append_dropWhile).symm
      · -- what `dropWhile` stops at is a line break
        cases hdw : W.reverse.dropWhile q with
        | nil => exact Or.inl rfl
        | cons x D =>
          have := List.head?_dropWhile_not q W.reverse
          rw [hdw] at this
          have hx : x = '\n' := by simpa [q] using this
          exact Or.inr ⟨D.reverse, by rw [hx]; simp⟩
    · exact ⟨[], by simp, Or.inl rfl⟩
  obtain ⟨A, hs, hA⟩ := hlead
  generalize hlead : keepAfterLastNL (s.takeWhile (isSpaceRe O)) ++ s.dropWhile (isSpaceRe O) = lead at hs
  refine ⟨A, (lead.reverse.takeWhile (isSpaceRe O)).reverse, ?_, hA⟩
  have ht : (trimEnds O) s = (lead.reverse.dropWhile (isSpaceRe O)).reverse := by
    unfold trimEnds; simp only [hlead]
  rw [ht, ← List.reverse_append, List.takeWhile_append_dropWhile, List.reverse_reverse]
  exact hs

end Paroxy.Hints
