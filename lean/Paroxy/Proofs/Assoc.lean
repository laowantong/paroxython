/-
A Python dict in insertion order is modelled as an association list, and the model has its lookup and its
assignment at several types (`Bag.count`/`Bag.set`, `Taxo.dget`/`Taxo.dset`, `DB.get?`/`DB.set`/`DB.push`/
`DB.pushNew`, `Spec.Dedup.bagOf`). Each of them is given by two equations; the facts are proved here for any
function that satisfies them, and for loops whose step acts on the keys or on the lookups as an assignment does.
-/
namespace Paroxy.Assoc
set_option linter.unusedSectionVars false
variable {κ β γ : Type} [DecidableEq κ]

theorem nodup_snoc {α : Type} {l : List α} {a : α} (h : l.Nodup) (ha : a ∉ l) : (l ++ [a]).Nodup := by
  rw [List.nodup_append]
  refine ⟨h, by simp, fun x hx b hb => ?_⟩
  rw [List.mem_singleton.mp hb]
  exact fun e => ha (e ▸ hx)

/-- `g l n` is `φ b` for the first entry `(n, b)` of `l`, and `dflt` when `n` is not a key. -/
structure IsLookup (g : List (κ × β) → κ → γ) (dflt : γ) (φ : β → γ) : Prop where
  nil : ∀ n, g [] n = dflt
  cons : ∀ m b t n, g ((m, b) :: t) n = if m = n then φ b else g t n

/-- `f d k` is `d[k] = u(d.get(k))`: the value at `k` becomes `u` of what was there, a new key goes to the end. -/
structure IsUpdate (f : List (κ × β) → κ → List (κ × β)) (u : Option β → β) : Prop where
  nil : ∀ k, f [] k = [(k, u none)]
  cons : ∀ k' w t k, f ((k', w) :: t) k = if k' = k then (k', u (some w)) :: t else (k', w) :: f t k

namespace IsLookup
variable {g : List (κ × β) → κ → γ} {dflt : γ} {φ : β → γ} (hg : IsLookup g dflt φ)
include hg

theorem cases (l : List (κ × β)) (n : κ) :
    (n ∉ l.map Prod.fst ∧ g l n = dflt) ∨ ∃ b, (n, b) ∈ l ∧ g l n = φ b := by
  induction l with
  | nil => exact .inl ⟨List.not_mem_nil, hg.nil n⟩
  | cons e t ih =>
    obtain ⟨m, c⟩ := e
    rw [hg.cons]
    by_cases hm : m = n
    · subst hm; exact .inr ⟨c, List.mem_cons_self, if_pos rfl⟩
    · rw [if_neg hm, List.map_cons, List.mem_cons, not_or]
      exact ih.imp (fun h => ⟨⟨Ne.symm hm, h.1⟩, h.2⟩) fun ⟨b, hb, h⟩ => ⟨b, List.mem_cons_of_mem _ hb, h⟩

/-- What holds of the default and of every value stored holds of every lookup. -/
theorem ind {P : γ → Prop} {l : List (κ × β)} (hd : P dflt) (hl : ∀ e ∈ l, P (φ e.2)) (n : κ) :
    P (g l n) := by
  rcases hg.cases l n with ⟨_, h⟩ | ⟨b, hb, h⟩
  · exact h ▸ hd
  · exact h ▸ hl _ hb

theorem of_not_mem {l : List (κ × β)} {n : κ} (h : n ∉ l.map Prod.fst) : g l n = dflt :=
  (hg.cases l n).elim (·.2) fun ⟨_, hb, _⟩ => absurd (List.mem_map_of_mem (f := Prod.fst) hb) h

theorem of_mem {l : List (κ × β)} (hl : (l.map Prod.fst).Nodup) {e : κ × β} (h : e ∈ l) :
    g l e.1 = φ e.2 := by
  induction l with
  | nil => cases h
  | cons x t ih =>
    obtain ⟨m, c⟩ := x
    simp only [List.map_cons, List.nodup_cons] at hl
    rw [hg.cons]
    rcases List.mem_cons.mp h with h | h
    · subst h; exact if_pos rfl
    · rw [if_neg fun hk : m = e.1 => hl.1 (hk ▸ List.mem_map_of_mem h), ih hl.2 h]

end IsLookup

namespace IsUpdate
variable {f : List (κ × β) → κ → List (κ × β)} {u : Option β → β} (hf : IsUpdate f u)
include hf

/-- The decision procedure of the membership test is a parameter: the instance found at a concrete key type
need not be the one found for `κ`. -/
theorem keys (d : List (κ × β)) (k : κ) (dec : ∀ l : List κ, Decidable (k ∈ l)) :
    (f d k).map Prod.fst = if k ∈ d.map Prod.fst then d.map Prod.fst else d.map Prod.fst ++ [k] := by
  induction d with
  | nil => simp [hf.nil]
  | cons e t ih =>
    obtain ⟨k', w⟩ := e
    by_cases hk : k' = k
    · subst hk; simp [hf.cons]
    · simp only [hf.cons, hk, if_false, List.map_cons, ih, List.mem_cons, Ne.symm hk, false_or]
      split <;> simp

theorem mem_keys (d : List (κ × β)) (k k' : κ) :
    k' ∈ (f d k).map Prod.fst ↔ k' ∈ d.map Prod.fst ∨ k' = k := by
  rw [hf.keys d k fun _ => inferInstance]
  split
  · next hk => exact ⟨Or.inl, fun h => h.elim id fun e => e ▸ hk⟩
  · simp

theorem nodup_keys {d : List (κ × β)} (h : (d.map Prod.fst).Nodup) (k : κ) :
    ((f d k).map Prod.fst).Nodup := by
  rw [hf.keys d k fun _ => inferInstance]
  split
  · exact h
  · next hk => exact nodup_snoc h hk

theorem mem {d : List (κ × β)} {k : κ} {e : κ × β} (h : e ∈ f d k) : e ∈ d ∨ ∃ o, e = (k, u o) := by
  induction d with
  | nil => rw [hf.nil, List.mem_singleton] at h; exact .inr ⟨none, h⟩
  | cons x t ih =>
    obtain ⟨k', w⟩ := x
    rw [hf.cons] at h
    split at h
    · next hk =>
      rcases List.mem_cons.mp h with h | h
      · exact .inr ⟨some w, hk ▸ h⟩
      · exact .inl (List.mem_cons_of_mem _ h)
    · rcases List.mem_cons.mp h with h | h
      · exact .inl (h ▸ List.mem_cons_self)
      · exact (ih h).imp_left (List.mem_cons_of_mem _)

/-- A lookup after an assignment, when the assignment acts as `ψ` on what the lookup finds at its key. -/
theorem lookup {g : List (κ × β) → κ → γ} {dflt : γ} {φ : β → γ} (hg : IsLookup g dflt φ) {ψ : γ → γ}
    (hn : φ (u none) = ψ dflt) (hs : ∀ w, φ (u (some w)) = ψ (φ w)) (d : List (κ × β)) (k k' : κ) :
    g (f d k) k' = if k = k' then ψ (g d k) else g d k' := by
  induction d with
  | nil => rw [hf.nil, hg.cons, hg.nil, hg.nil, hn]
  | cons e t ih =>
    obtain ⟨m, w⟩ := e
    rw [hf.cons]
    by_cases hm : m = k
    · subst hm
      rw [if_pos rfl, hg.cons, hg.cons, hg.cons, if_pos rfl, hs]
      split <;> rfl
    · rw [if_neg hm, hg.cons, ih, hg.cons m w t k, if_neg hm, hg.cons]
      by_cases hk : k = k'
      · subst hk; rw [if_neg hm, if_pos rfl, if_pos rfl]
      · simp only [if_neg hk]

theorem get {get : List (κ × β) → κ → Option β} (hg : IsLookup get none some) (d : List (κ × β)) (k k' : κ) :
    get (f d k) k' = if k = k' then some (u (get d k)) else get d k' :=
  hf.lookup hg (ψ := fun o => some (u o)) rfl (fun _ => rfl) d k k'

end IsUpdate

/-! ### loops -/

/-- The keys after a loop `for x in xs: d[key x] = …`, whatever is stored. -/
theorem mem_keys_foldl {α : Type} {step : List (κ × β) → α → List (κ × β)} {key : α → κ}
    (hstep : ∀ d x k, k ∈ (step d x).map Prod.fst ↔ k ∈ d.map Prod.fst ∨ k = key x) (xs : List α)
    (d : List (κ × β)) (k : κ) :
    k ∈ (xs.foldl step d).map Prod.fst ↔ k ∈ d.map Prod.fst ∨ k ∈ xs.map key := by
  induction xs generalizing d with
  | nil => simp
  | cons x t ih => rw [List.foldl_cons, ih, hstep, List.map_cons, List.mem_cons, or_assoc]

/-- A loop `for x in xs: d[key x] = c(d.get(key x, b0), val x)` seen from the key `k`: the values of the `x` filed
under `k` are folded, in order, into what was there. -/
theorem lookup_foldl {α δ : Type} {get : List (κ × β) → κ → Option β} {step : List (κ × β) → α → List (κ × β)}
    {key : α → κ} {val : α → δ} {c : β → δ → β} {b0 : β}
    (hstep : ∀ d x k, get (step d x) k = if key x = k then some (c ((get d (key x)).getD b0) (val x)) else get d k)
    (xs : List α) (d : List (κ × β)) (k : κ) :
    get (xs.foldl step d) k =
      match get d k with
      | some b => some (((xs.filter fun x => decide (key x = k)).map val).foldl c b)
      | none => if (xs.filter fun x => decide (key x = k)).map val = [] then none
                else some (((xs.filter fun x => decide (key x = k)).map val).foldl c b0) := by
  induction xs generalizing d with
  | nil =>
    simp only [List.foldl_nil, List.filter_nil, List.map_nil, if_true]
    cases get d k <;> rfl
  | cons x t ih =>
    rw [List.foldl_cons, ih, hstep]
    by_cases h : key x = k
    · subst h
      simp only [if_true, List.filter_cons, decide_true, List.map_cons, List.foldl_cons]
      cases get d (key x) <;> simp
    · simp only [h, if_false, List.filter_cons, decide_false, Bool.false_eq_true]

end Paroxy.Assoc

/-- The model's partial operations return an `Except`: their results on samples are compared by evaluation. -/
instance Paroxy.exceptDecEq {ε α : Type} [DecidableEq ε] [DecidableEq α] : DecidableEq (Except ε α)
  | .ok a, .ok b => if h : a = b then isTrue (h ▸ rfl) else isFalse fun e => h (Except.ok.inj e)
  | .error a, .error b => if h : a = b then isTrue (h ▸ rfl) else isFalse fun e => h (Except.error.inj e)
  | .ok _, .error _ => isFalse nofun
  | .error _, .ok _ => isFalse nofun
