/-
C09 — Label-to-taxon translation is exactly the taxonomy table.

Property theorems only. They are about the model of `Taxonomy.__init__`, `is_literal`,
`get_taxon_name_list` (memo + in-place extension of the literal lists) and the accumulation loop of
`to_taxa` (`Model/Taxonomy.lean`), for EVERY regex oracle `o` (`o.full (T, P) L` = the expansion of
`T` when `P` matches `L` entirely; `o.looks L` = "`L` looks like a taxon"), every table `rows`
(literal rows, regex rows, several rows per label, duplicated rows — any list), every label and
every history of calls on one instance. The specification is `Spec.Taxo.translate` / `rawCount`.
-/
import Paroxy.Spec.Taxonomy
import Paroxy.Spec.TaxonomyDefault
import Paroxy.Proofs.Taxonomy
import Paroxy.Proofs.ToTaxa
namespace Paroxy.Props.C09
open Paroxy Paroxy.Taxo Paroxy.Spec.Taxo Paroxy.TaxoProofs

/-- **C09 (translation, all histories).** On a fresh instance, every call of every history of
`get_taxon_name_list` calls — repeats and interleavings included — returns the specification's
translation of its label: the memo and the aliasing of `literal_labels[L]` are unobservable. -/
theorem C09_translation (o : Oracle) (rows : List Row) (hist : List Str) :
    run o (init rows) hist = hist.map (translate o rows) :=
  run_ok o rows hist (init rows) (init_ok o rows)

/-- **C09 (same on every call).** In whatever state the instance is (after any calls and any
`to_taxa`), a call returns the specification's translation, which depends on the label only. -/
theorem C09_same_on_every_call (o : Oracle) (rows : List Row) (st : State)
    (h : Reachable o rows st) (L : Str) : (call o st L).2 = translate o rows L :=
  (call_ok o rows st h.ok L).1

/-- **C09 (exactly the table).** A taxon name is in the translation of `L` iff `L` looks like a
taxon and it is `L` itself, or `L` does not and some row of the table applies to `L` with that
result (`rowResult`: literal pattern equal to `L`, or regex pattern matching `L` entirely, expanded).
Nothing else is in the translation. -/
theorem C09_exact (o : Oracle) (rows : List Row) (L x : Str) :
    x ∈ translate o rows L ↔
      (o.looks L = true ∧ x = L) ∨ (o.looks L = false ∧ ∃ r ∈ rows, rowResult o r L = some x) :=
  mem_translate o rows L x

/-- **C09 (a literal pattern matches only itself).** `is_literal` holds exactly of the patterns made
of dots and of characters `regex.escape` leaves alone; the row of such a pattern applies to a label
iff the label IS the pattern (dots are not wildcards), and then yields its taxon unchanged. -/
theorem C09_literal_only_itself (o : Oracle) (r : Row) (L x : Str) :
    (isLiteral r.2 = true ↔ ∀ c ∈ r.2, plainOrDot c = true) ∧
    (isLiteral r.2 = true → (rowResult o r L = some x ↔ r.2 = L ∧ x = r.1)) := by
  refine ⟨isLiteral_iff r.2, ?_⟩
  intro hl
  unfold rowResult
  rw [if_pos hl]
  by_cases hP : r.2 = L
  · rw [if_pos hP]
    simp only [Option.some.injEq, hP, true_and]
    exact eq_comm
  · simp [hP]

/-- **C09 (bag).** Whatever the instance went through before, the bag accumulated by `to_taxa` for
a taxon `t`, before deduplication, counts a span `s` exactly
Σ_{(L, spans) ∈ labels} (multiplicity of `t` in the translation of `L`) × (occurrences of `s` in
`spans`): the multiset union of the spans of the labels translated to `t`. -/
theorem C09_bag {σ : Type} [DecidableEq σ] (o : Oracle) (rows : List Row) (st : State)
    (h : Reachable o rows st) (labels : List (Str × List σ)) (t : Str) (s : σ) :
    accCount (accumulate o st [] labels).2 t s = rawCount o rows labels t s := by
  have := accumulate_ok o rows labels t s st [] h.ok
  simpa [accCount, dget] using this

/-- **C09 (keys).** The accumulator of `to_taxa` has exactly one key per taxon some label translates
to — also when the label's span list is empty (`acc[t]` is then an empty Counter) — and no other. -/
theorem C09_keys {σ : Type} [DecidableEq σ] (o : Oracle) (rows : List Row) (st : State)
    (h : Reachable o rows st) (labels : List (Str × List σ)) :
    ((accumulate o st [] labels).2.map Prod.fst).Nodup ∧
      ∀ t, t ∈ (accumulate o st [] labels).2.map Prod.fst ↔ t ∈ rawKeys o rows labels := by
  refine ⟨(ToTaxa.accOK_accumulate o labels st [] ⟨by simp, by intro e he; cases he⟩).1, fun t => ?_⟩
  have := ToTaxa.keys_accumulate o rows labels t st [] h.ok
  simpa using this

/-- **C09 (reading the table).** A taxonomy text that passes the executable check `tableOk` (every
data line before `-- EOF` has at least two fields, no row twice, at least one row) is read without
error into exactly the rows of its data lines — in sorted-line order — all distinct.
NOT PROVED HERE: that the default table satisfies `tableOk`. That is only *evaluated* by the native
driver on `Gen.TaxonomyCodes` (regenerated from /repo) on every run and reported in the evidence
(`default_table_ok`); in the kernel the computation takes minutes (`List.mergeSort` does not reduce,
`Char` arithmetic is slow), so there is no `decide` of it. -/
theorem C09_table_wf (text : Str) (h : tableOk text = true) :
    ∃ rows, parseTsv text = .ok rows ∧ rows.Perm ((rawLines text).map parseLineD) ∧ rows.Nodup ∧
      rows ≠ [] :=
  parseTsv_of_tableOk text h

-- Here and in the test vectors below: evaluating `String.toList` on a literal decodes its UTF-8 bytes,
-- which is slow in the kernel; `String.toList_ofList` reads the characters off the literal instead.
example : tableOk "T\tL\nb/x\tfoo\na/y\tbar(.*) comment\n-- EOF\nzz".toList = true := by
  rw [String.toList_ofList]
  decide +kernel

/-! ### Non-vacuity: the aliasing case. Table: literal row `(t/lit, foo)` and regex row
`(t/\1, (fo+))`; the label `foo` is both a literal key and matched by the regex, so the first call
extends `literal_labels["foo"]` in place. Called three times, interleaved with another label. -/

def exRows : List Row := [("t/lit".toList, "foo".toList), ("t/\\1".toList, "(fo+)".toList)]
def exOracle : Oracle where
  looks := fun L => L == "a/b".toList
  full := fun r L =>
    if r.2 == "(fo+)".toList && (L == "foo".toList || L == "fo".toList) then some ("t/".toList ++ L)
    else none

example : isLiteral "foo".toList = true ∧ isLiteral "(fo+)".toList = false := by
  rw [String.toList_ofList, String.toList_ofList]
  decide +kernel
example : run exOracle (init exRows) ["foo".toList, "fo".toList, "foo".toList, "a/b".toList, "foo".toList]
    = [["t/lit".toList, "t/foo".toList], ["t/fo".toList], ["t/lit".toList, "t/foo".toList],
       ["a/b".toList], ["t/lit".toList, "t/foo".toList]] := by decide +kernel

end Paroxy.Props.C09
