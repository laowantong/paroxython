/-
C12 — Manual hints add and delete exactly what they say.

Property theorems only (helper lemmas: Proofs/Hints*.lean, GlueCount). The model (Model/Hints.lean,
Model/ParseGlue.lean) mirrors /repo and is tied to it by the correspondence harness
harness/c12.py.

Reading (DESIGN §5/C12): a *decorated program* (`Decorated`) is a list of code lines, each with
its trailing hint tokens in any tolerated spelling (`+` optional, `…` for `...`, several spaces,
several hints per line, any number of spaces — or none — between the code and the hint comment),
and of hints alone on a line anywhere between them; `decorate` writes it down. What the hints *say* is, label by label, the proper nesting `Bal` of their marks (a closing
mark closes the latest still-open opening of that label, whatever its sign), a hint alone on a
line being an addition opened on the first line and closed on the last one.
-/
import Paroxy.Proofs.HintsCore2
import Paroxy.Proofs.HintsSame
import Paroxy.Proofs.HintsMalformed
import Paroxy.Proofs.GlueCount
import Paroxy.Proofs.HintsNoMarker
/-
Character classes. The classes `\w` and white space are fixed on ASCII and on `…`; for every other
character they are the oracle parameter `O : CharOracle`, universally quantified in every theorem
below (treatment R1): labels such as `été`, `λ`, `变量`, separators such as NBSP or U+2028 are covered,
whatever the real engines answer for them. The concrete `example`s use `asciiOracle` or say which
oracle they use.

Limit (outside the property): `ProgramParser.__call__` consumes `program.deletion` IN PLACE
(`list.remove`); parsing the same `Program` object a second time finds the deletions already
consumed and deletes nothing. The model returns the schedule left over (`(parse …).2`); the
theorems are about one call on a fresh `get_program` result.
-/
namespace Paroxy.Props.C12
open Paroxy Paroxy.Hints Paroxy.Glue

variable {O : CharOracle}

/-! ## Round trip: decorate → `get_program` -/

/-- Hygiene of the lines, whatever the spelling of the markers: code lines are single lines without
trailing white space and without any look-alike of the marker (`(?i)#\s*paroxython\s*:`), not blank
when they carry hints; labels start with a word character, contain neither white space nor `#`,
do not end with an ellipsis. -/
def linesOk (O : CharOracle) (d : Decorated) : Bool :=
  (codeLines d).all (okCode O) && (wholeLabels d).all (cleanLabel O) && (looseOk O) d

/-- **C12 (round trip).** For every decorated program `d` — code lines with trailing hints in any
tolerated spelling (`+` optional, `…`, several spaces, several hints per line, the hint comment
separated from the code by any number of spaces or **glued to it**, `pad = 0`, F45), hints alone on
a line anywhere, **each marker spelled freely** (`#`, spaces, `paroxython` in any case, spaces, `:`,
spaces or none), **blank lines anywhere**, in particular at both ends of the text and between a
hint alone on a line and the code — whose lines are hygienic (`linesOk`), which has a code line
that is not blank, and whose marks are, label by label, properly nested (`Bal`, LIFO):
`get_program (decorateS d)` succeeds; the stored source is the program without its hints and
without its blank end lines (`base (normalised d)`, stripped by `str.strip()`, i.e. minus the
indentation of its first line if any); the scheduled additions / deletions are, as multisets per
label, exactly the spans the nesting names, numbered on the lines of that stored source.

The only hypothesis left beyond hygiene and proper nesting is `noTie`: no label opened for addition
and deletion on the same line — on such a tie the code closes the addition first whatever the order
of the two openings on the line, which is the LIFO reading of `-L... L...` but not of `L... -L...`
(`C12_roundtrip_needs_noTie`). -/
theorem C12_roundtrip (d : List (Line × MarkerStyle)) (r : Str → List SSpan)
    (hlines : (linesOk O) (d.map Prod.fst) = true)
    (hcode : (codeLines (normalised d)).isEmpty = false)
    (hbal : ∀ L, Bal (events (normalised d) L) (r L))
    (hnotie : ∀ L, noTie (events (normalised d) L) = true) :
    ∃ p, (getProgram O) (decorateS d) = .ok p ∧ p.source = (stripPy O) (joinNL (base (normalised d))) ∧
      (∀ L s e, p.addition.count L (s, e) = (r L).count (false, s, e)) ∧
      (∀ L s e, p.deletion.count L (s, e) = (r L).count (true, s, e)) := by
  have hne : codeLines (normalised d) ≠ [] := by simpa using hcode
  have hy := hyg_normalised d (linesOk_of _ hlines) hne
  have hget := getProgram_decorateS d (linesOk_of _ hlines) hne
  obtain ⟨p, h1, h3, h4⟩ :=
    getProgramFrom_decorate (normalised d) r hy hbal (fun L => noTie_of _ (hnotie L))
  exact ⟨p, hget.trans h1, source_of_decorate _ hy p h1, fun L s e => h3 L (s, e), fun L s e => h4 L (s, e)⟩

/-- **C12 (marker spelling).** `# paroxython:` is neither space- nor case-sensitive: whatever the
spelling of each marker, `get_program` answers as for the normalised spelling. -/
theorem C12_marker_tolerance (d : List (Line × MarkerStyle))
    (hlines : (linesOk O) (d.map Prod.fst) = true) (hne : (codeLines (trimmed d)).isEmpty = false) :
    (getProgram O) (decorateS d) = (getProgram O) (decorateS (d.map fun p => (p.1, {}))) := by
  have hne' : codeLines (trimmed d) ≠ [] := by simpa using hne
  have e : trimmed (d.map fun p => (p.1, ({} : MarkerStyle))) = trimmed d := by
    simp [trimmed, List.map_map, Function.comp_def]
  have h1 := prepare_decorateS d (linesOk_of _ hlines) hne'
  have h2 := prepare_decorateS (d.map fun p => (p.1, ({} : MarkerStyle)))
    (by simpa [List.map_map, Function.comp_def] using linesOk_of _ hlines) (by rw [e]; exact hne')
  rw [getProgram, getProgram, h1, h2, e]

/-- **C12 (stored source).** The stored source of a decorated program is the stored source of the
same program written without any hint (and `get_program` schedules nothing for the latter): "the
stored source text [is that] of the program without the hint". No nesting hypothesis is needed. -/
theorem C12_source_same (d : List (Line × MarkerStyle))
    (hlines : (linesOk O) (d.map Prod.fst) = true)
    (hcode : (codeLines (normalised d)).isEmpty = false)
    (p : Program) (hp : (getProgram O) (decorateS d) = .ok p) :
    (getProgram O) (joinNL (base (normalised d))) = .ok ⟨p.source, [], []⟩ := by
  have hok := linesOk_of _ hlines
  have hne : codeLines (normalised d) ≠ [] := by simpa using hcode
  have hy := hyg_normalised d hok hne
  have hget := getProgram_decorateS d hok hne
  -- no look-alike of the marker in the code lines that are left
  have hloose : ∀ c ∈ codeLines (normalised d), (noLoose O) c.code = true := by
    intro c hc
    have h1 : Line.code c ∈ trimmed d := (core2_sublist _).subset ((mem_codeLines_iff _ c).mp hc)
    obtain ⟨q, hq, hg⟩ := List.mem_map.mp ((core_sublist _).subset h1)
    cases hl : q.1 with
    | isolated n L => rw [hl] at hg; cases hg
    | code c0 =>
      rw [hl] at hg
      cases hg
      exact ((hok.loose q.1 (List.mem_map_of_mem (f := Prod.fst) hq)).code c0 hl).1
  rw [getProgram_undecorated (normalised d) hy hloose, source_of_decorate (normalised d) hy p (hget ▸ hp)]

/-- The executable reading of `Bal` used by the driver (`c12.spec_*`) is sound: the spans it
returns are spans of a proper nesting. -/
theorem C12_balSpans_sound (w : List Ev) (r : List SSpan) (h : balSpans w = some r) : Bal w r := by
  unfold balSpans at h
  split at h
  · rename_i r' h'
    simp only [Option.some.injEq] at h; subst h
    obtain ⟨u, hu, hb⟩ := parseBal_sound _ _ _ _ h'
    simp only [List.append_nil] at hu
    subst hu; exact hb
  · cases h

/-- The manual's example (docs/md/preparing.md, "Multiple lines"), with a single-line deletion and
addition, `…`, an extra space, a hint alone on a line, two free spellings of the marker, a
blank line at each end of the text, and the first hint comment glued to its code (`pad := 0`, the
shape of the repaired finding F45) added. -/
def manualExample : List (Line × MarkerStyle) :=
  [ (.code { code := [] }, {}),
    (.code { code := "for am in ifera:".toList, pad := 0,
             hints := [⟨.opn true, "loop:for".toList, { gap := 1 }⟩,
                       ⟨.opn false, "amoeboid_protist".toList, { plus := true }⟩] },
      { sp1 := 2, caps := fun k => k == 0, sp2 := 1, after := 0 }),
    (.isolated 4 "meta/topic/fun".toList, { sp1 := 0 }),
    (.code { code := "    catch(a + b)".toList, pad := 2,
             hints := [⟨.one true, "addition_operator".toList, {}⟩,
                       ⟨.one false, "concatenation_operator".toList, { plus := true }⟩] }, {}),
    (.code { code := "    eat()".toList,
             hints := [⟨.cls, "loop:for".toList, {}⟩, ⟨.cls, "amoeboid_protist".toList, { uni := true }⟩] }, {}),
    (.code { code := [] }, {}) ]

-- In the test vectors of this file: evaluating `String.toList` on a literal decodes its UTF-8 bytes, which is
-- slow in the kernel; `String.toList_ofList` reads the characters off the literal instead.
/-- Non-vacuity of `C12_roundtrip`: the example is hygienic, and its marks are properly nested
(shown for the four labels it mentions; for every other label there is no mark at all). -/
example : (linesOk asciiOracle) (manualExample.map Prod.fst) = true := by
  rw [manualExample]
  repeat rw [String.toList_ofList]
  decide +kernel
example : (codeLines (normalised manualExample)).isEmpty = false := by decide +kernel
example : balSpans (events (normalised manualExample) "loop:for".toList) = some [(true, 1, 3)] := by
  rw [manualExample]
  repeat rw [String.toList_ofList]
  decide +kernel
example : balSpans (events (normalised manualExample) "amoeboid_protist".toList) = some [(false, 1, 3)] := by
  rw [manualExample]
  repeat rw [String.toList_ofList]
  decide +kernel
example : balSpans (events (normalised manualExample) "meta/topic/fun".toList) = some [(false, 1, 3)] := by
  rw [manualExample]
  repeat rw [String.toList_ofList]
  decide +kernel
example : balSpans (events (normalised manualExample) "addition_operator".toList) = some [(true, 2, 2)] := by
  rw [manualExample]
  repeat rw [String.toList_ofList]
  decide +kernel
example : noTie (events (normalised manualExample) "loop:for".toList) = true := by
  rw [manualExample]
  repeat rw [String.toList_ofList]
  decide +kernel
/- `decorateS manualExample` is the text
```
⏎
for am in ifera:#  Paroxython :-loop:for... +amoeboid_protist...
    #paroxython: meta/topic/fun
    catch(a + b)  # paroxython: -addition_operator +concatenation_operator
    eat() # paroxython: ...loop:for …amoeboid_protist
⏎
``` -/
example : (getProgram asciiOracle) (decorateS manualExample) = .ok
    ⟨"for am in ifera:\n    catch(a + b)\n    eat()".toList,
     [("concatenation_operator".toList, [(2, 2)]), ("amoeboid_protist".toList, [(1, 3)]),
      ("meta/topic/fun".toList, [(1, 3)])],
     [("addition_operator".toList, [(2, 2)]), ("loop:for".toList, [(1, 3)])]⟩ := by
  rw [manualExample]
  repeat rw [String.toList_ofList]
  decide +kernel

/-- **C12 (stored source, all texts).** Whatever the text: the source `get_program` stores shows no
hint marker `# paroxython:` any more — every hint comment is removed, with or without a space after
the colon, empty or not, glued to the code or not (repaired finding F46: an empty hint comment at the
end of the last line used to survive, the final trimming having eaten the space the regex of
`remove_hints` required). -/
theorem C12_source_no_marker (src : Str) (p : Program) (h : (getProgram O) src = .ok p) :
    hasInfix m13 p.source = false :=
  (Bool.not_eq_true' _).mp (source_noMarker src p h)

/-- The inputs of the repaired findings F45 (a hint comment glued to the code and a hint alone on a
line: used to be a `ValueError` "Malformed hint '#'") and F46 (an empty hint comment at the end of the
last line: used to stay in the stored source). -/
example : (getProgram asciiOracle) "x = 1#paroxython:a\n# paroxython: b\ny = 2\n".toList =
    .ok ⟨"x = 1\ny = 2".toList, [("a".toList, [(1, 1)]), ("b".toList, [(1, 2)])], []⟩ := by
  rw [String.toList_ofList, String.toList_ofList, String.toList_ofList, String.toList_ofList]
  decide +kernel
example : (getProgram asciiOracle) "x = 1\ny = 2 # paroxython:\n".toList =
    .ok ⟨"x = 1\ny = 2".toList, [], []⟩ := by
  rw [String.toList_ofList, String.toList_ofList]
  decide +kernel
example : (getProgram asciiOracle) "x = 1 #paroxython:\n#  Paroxython :   \ny = 2#paroxython:".toList =
    .ok ⟨"x = 1\ny = 2".toList, [], []⟩ := by
  rw [String.toList_ofList, String.toList_ofList]
  decide +kernel

/-- **C12 (shape of a schedule).** Whatever the text, a schedule returned by `get_program` is a
dictionary: label names are distinct, and each label's list of spans is sorted. Together with the
counts of `C12_roundtrip` this determines `Program.addition` / `Program.deletion` completely. -/
theorem C12_schedule_shape (src : Str) (p : Program) (h : (getProgram O) src = .ok p) :
    (p.addition.map (·.1)).Nodup ∧ (p.deletion.map (·.1)).Nodup ∧
      (∀ e ∈ p.addition, e.2.Pairwise (fun a b => spanLe a b = true)) ∧
      (∀ e ∈ p.deletion, e.2.Pairwise (fun a b => spanLe a b = true)) := by
  obtain ⟨c, _, hcol, _⟩ := getProgramFrom_ok h
  obtain ⟨st, _, ha, hd⟩ := collectHints_ok hcol
  rw [ha, hd]
  exact ⟨(getResult_shape _).1, (getResult_shape _).1, (getResult_shape _).2, (getResult_shape _).2⟩

/-- `noTie` cannot be dropped: here is the round-trip statement (normalised spellings) without it … -/
def C12_roundtrip_without_noTie : Prop :=
  ∀ (d : Decorated) (r : Str → List SSpan),
    ((linesOk asciiOracle) d && (hygienic asciiOracle) d) = true → (∀ L, Bal (events d L) (r L)) →
    ∃ p, (getProgram asciiOracle) (decorate d) = .ok p ∧
      (∀ L s e, p.addition.count L (s, e) = (r L).count (false, s, e)) ∧
      (∀ L s e, p.deletion.count L (s, e) = (r L).count (true, s, e))

def foo : Str := ['f', 'o', 'o']

def tieProgram : Decorated :=
  [ .code { code := ['x'], hints := [⟨.opn false, foo, {}⟩, ⟨.opn true, foo, {}⟩] },
    .code { code := ['y'], hints := [⟨.cls, foo, {}⟩] },
    .code { code := ['z'], hints := [⟨.cls, foo, {}⟩] } ]

/-- … and it is false: `x # paroxython: foo... -foo...`, `y # paroxython: ...foo`,
`z # paroxython: ...foo`. Proper nesting (LIFO) closes the deletion on line 2 and the addition on
line 3; the code, on the tie of line 1, closes the addition first (addition 1–2, deletion 1–3). -/
theorem C12_roundtrip_needs_noTie : ¬ C12_roundtrip_without_noTie := by
  intro h
  let r : Str → List SSpan := fun L => if L = foo then [(true, 1, 2), (false, 1, 3)] else []
  have hev : ∀ L, events tieProgram L =
      if L = foo then [Ev.opn false 1, Ev.opn true 1, Ev.cls 2, Ev.cls 3] else [] := by
    intro L
    by_cases hL : L = foo
    · subst hL; decide +kernel
    · have h1 : ¬ foo = L := fun e => hL e.symm
      simp [events, tieProgram, codeLines, wholeLabels, eventsFrom, hintEvs, hL, h1]
  obtain ⟨p, hp, hadd, _⟩ := h tieProgram r (by decide +kernel)
    (by
      intro L; rw [hev L]
      by_cases hL : L = foo
      · simp only [hL, if_true, r]
        exact .pair (u := [Ev.opn true 1, Ev.cls 2]) (w := []) (.pair (u := []) (w := []) .nil .nil) .nil
      · simp only [hL, if_false, r]; exact .nil)
  have hreal : (getProgram asciiOracle) (decorate tieProgram) =
      .ok ⟨['x', '\n', 'y', '\n', 'z'], [(foo, [(1, 2)])], [(foo, [(1, 3)])]⟩ := by decide +kernel
  rw [hreal] at hp
  cases hp
  have := hadd foo 1 2
  revert this
  decide

/-! ## Malformed hint comments -/

/-- **C12 (malformed ⇒ `ValueError`).** Whatever the text: if, among the hint tokens of the text
`collect_hints` reads (markers normalised, blank ends trimmed, isolated hints centrifugated), one is
rejected by the token regex (or has the illegal form `...L...`), or for some label a closing mark
has no opening mark still open before it, or an opening mark is never closed, then `get_program`
raises `ValueError` — it never returns a schedule, and raises nothing else. -/
theorem C12_malformed (src c : Str) (hc : (centrifugate O) ((prepare O) src) = .ok c) (hm : (Malformed O) ((hintToks O) c)) :
    (getProgram O) src = .error .valueError := by
  unfold getProgram getProgramFrom
  simp only [hc]
  cases hcol : (collectHints O) c with
  | ok r => exact absurd hm (collectToks_ok_not_malformed _ r hcol)
  | error e => rw [collectToks_error_value _ e hcol]

/-- The only other exception of `get_program` is the `IndexError` of a text made only of hints
alone on their line (no line is left to carry them): every error is one of the two. -/
theorem C12_error_classes (src : Str) (e : Err) (h : (getProgram O) src = .error e) :
    e = .valueError ∨ (e = .indexError ∧ (centrifugate O) ((prepare O) src) = .error .indexError) := by
  unfold getProgram getProgramFrom at h
  cases hc : (centrifugate O) ((prepare O) src) with
  | error e' =>
    simp only [hc] at h; cases h
    cases e
    · exact Or.inl rfl
    · exact Or.inr ⟨rfl, rfl⟩
  | ok c =>
    simp only [hc] at h
    cases hcol : (collectHints O) c with
    | ok r => obtain ⟨a, d⟩ := r; simp [hcol] at h
    | error e' =>
      simp only [hcol] at h; cases h
      exact Or.inl (collectToks_error_value _ e hcol)

/-- The executable form the driver evaluates (`c12.spec_malformed`) is sound for the hypothesis
above, so a `true` answer of the driver is an instance of the theorem. -/
theorem C12_spec_malformed_sound (toks : List (Nat × Str)) (h : (malformedB O) toks = true) : (Malformed O) toks :=
  malformed_of_B toks h

/-- Non-vacuity: an unmatched closing mark, a rejected token, a label opened for addition and
deletion on one line and closed once (the `TypeError` of the unrepaired tree). -/
example : (malformedB asciiOracle) ((hintToks asciiOracle) "x = 1 # paroxython: ...foo".toList) = true := by
  rw [String.toList_ofList]
  decide +kernel
example : (malformedB asciiOracle) ((hintToks asciiOracle) "x = 1 # paroxython: +-foo".toList) = true := by
  rw [String.toList_ofList]
  decide +kernel
example : (getProgram asciiOracle) "x = 1\n# paroxython: -foo".toList = .error .valueError := by
  rw [String.toList_ofList]
  decide +kernel
example : (getProgram asciiOracle) "a # paroxython: foo... -foo...\nb # paroxython: ...foo".toList = .error .valueError := by
  rw [String.toList_ofList]
  decide +kernel
example : (getProgram asciiOracle) "# paroxython: foo".toList = .error .indexError := by
  rw [String.toList_ofList]
  decide +kernel

/-- Beyond ASCII the answer depends on the oracle, as it does on the engine: with an oracle for which
`é` is a word character `été` is scheduled, with one for which it is not the token is rejected;
NBSP separates two tokens exactly when the oracle calls it white space. -/
example : (getProgram ⟨fun c => c == 'é', fun _ => false⟩) "x = 1 # paroxython: été".toList =
    .ok ⟨"x = 1".toList, [("été".toList, [(1, 1)])], []⟩ := by
  rw [String.toList_ofList, String.toList_ofList, String.toList_ofList]
  decide +kernel
example : (getProgram asciiOracle) "x = 1 # paroxython: été".toList = .error .valueError := by
  rw [String.toList_ofList]
  decide +kernel
example : (getProgram ⟨fun _ => false, fun c => c == '\u00a0'⟩) "x = 1 # paroxython: a\u00a0b".toList =
    .ok ⟨"x = 1".toList, [("a".toList, [(1, 1)]), ("b".toList, [(1, 1)])], []⟩ := by
  rw [String.toList_ofList, String.toList_ofList, String.toList_ofList, String.toList_ofList]
  decide +kernel

/-! ## Scheduled deletions and additions in the parser -/

/-- **C12 (deletion exact), regex stage.** For every list of computed occurrences (whatever the
`regex` engine answered), every schedule of deletions (a dictionary: distinct names) and of
additions: in the labels of the regex stage, the number of occurrences of name `n` with range `x`
is the number computed, minus one per scheduled deletion of exactly (`n`, `x`) as far as there are
such occurrences, plus the scheduled additions of (`n`, `x`); and the deletions left for the
SQL stages are those that found no occurrence. -/
theorem C12_deletion_exact (del add : Sched) (hnd : (keys del).Nodup) (computed : List Occ)
    (n : Str) (x : Nat × Nat) :
    Labels.count (regexStage del add computed).1 n x =
        (occCount computed n x - Sched.count del n x) + Sched.count add n x ∧
      Sched.count (regexStage del add computed).2 n x = Sched.count del n x - occCount computed n x := by
  obtain ⟨_, h⟩ := stage_count computed del hnd
  obtain ⟨a, b⟩ := h n x
  simp only [regexStage]
  rw [mergeAdditions_count, group_count, a, b]
  exact ⟨rfl, rfl⟩

/-- **C12 (deletion exact), each SQL stage**, on what SQLite derived at that stage and on the
deletions left by the previous stages; names are kept distinct for the next stage. -/
theorem C12_sql_stage_exact (del : Sched) (hnd : (keys del).Nodup) (derived : List Occ)
    (n : Str) (x : Nat × Nat) :
    Labels.count (sqlStage del derived).1 n x = occCount derived n x - Sched.count del n x ∧
      Sched.count (sqlStage del derived).2 n x = Sched.count del n x - occCount derived n x ∧
      (keys (sqlStage del derived).2).Nodup := by
  obtain ⟨hk, h⟩ := stage_count derived del hnd
  obtain ⟨a, b⟩ := h n x
  simp only [sqlStage]
  rw [group_count, a, b]
  exact ⟨rfl, rfl, by rw [hk]; exact hnd⟩

/-- **C12 (deletion exact), all the stages together.** Over the regex stage and every SQL stage
(whatever SQLite derived at each of them): the labels returned hold, for every name and range, the
occurrences computed at all the stages, minus one per scheduled deletion of exactly that name and
range as far as there are occurrences — whichever stage they show up at —, plus the scheduled
additions; what is left of the schedule is what found no occurrence at any stage. -/
theorem C12_all_stages_exact (del add : Sched) (hnd : (keys del).Nodup) (computed : List Occ)
    (derived : List (List Occ)) (n : Str) (x : Nat × Nat) :
    Labels.count (parse del add computed derived).1 n x =
        ((occCount computed n x + derivedCount derived n x) - Sched.count del n x) + Sched.count add n x ∧
      Sched.count (parse del add computed derived).2 n x =
        Sched.count del n x - (occCount computed n x + derivedCount derived n x) := by
  obtain ⟨hk, h⟩ := stage_count computed del hnd
  have hnd' : (keys (regexStage del add computed).2).Nodup := by simp only [regexStage]; rw [hk]; exact hnd
  obtain ⟨_, hf⟩ := stages_fold_count derived (regexStage del add computed).1 (regexStage del add computed).2 hnd'
  obtain ⟨a, b⟩ := hf n x
  obtain ⟨c1, c2⟩ := C12_deletion_exact del add hnd computed n x
  simp only [parse]
  rw [a, b, c1, c2, Nat.add_right_comm, sub_add_sub_sub, Nat.sub_sub]
  exact ⟨rfl, rfl⟩

/-- **C12 (other labels untouched).** A name no deletion hint mentions keeps every computed
occurrence, paths included, in the computed order; and the loop never invents an occurrence.
(`hnd`, the standing hypothesis of the deletion theorems, is not used by this one.) -/
theorem C12_deletion_untouched (del : Sched) (hnd : (keys del).Nodup) (occs : List Occ) (name : Str)
    (h : name ∉ keys del) :
    (stage del occs).1.filter (fun o => o.1 == name) = occs.filter (fun o => o.1 == name) ∧
      ((stage del occs).1).Sublist occs := by
  have _ := hnd
  exact ⟨stage_untouched name occs del h, stage_sublist occs del⟩

/-- Non-vacuity: `-L` on a line where `L` was computed twice removes exactly one of the two. -/
example :
    (regexStage [("L".toList, [(2, 2)])] [("M".toList, [(2, 2)])]
      [("L".toList, (2, 2, "1-".toList)), ("L".toList, (2, 2, "1-2-".toList)), ("L".toList, (3, 3, "2-".toList))]).1
    = [("L".toList, [(2, 2, "1-2-".toList), (3, 3, "2-".toList)]), ("M".toList, [(2, 2, [])])] := by decide +kernel

end Paroxy.Props.C12
