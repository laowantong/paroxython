/-
C18 — The command line does what the library does, for every option.   (PARTIAL)

Model: lean/Paroxy/Model/Cli.lean — pure decision functions from the option
record (what docopt returns) and facts about the file system to a *plan* (which library call, with which
arguments, writing what where). The documented rules are stated outright on the plans, for ALL option
records and ALL file-system facts.

NOT provable here — exercised only by harness/c18.py: docopt's parsing of the command line, `pathlib.glob`,
the `regex` engine on the user's skip pattern, file I/O, and that the real entry points do what the plan
says (files / stdout compared with the library call the plan prescribes).
-/
import Paroxy.Model.Cli
import Paroxy.Proofs.Cli
namespace Paroxy.Props.C18
open Paroxy.Cli

/-! ## collect -/

/-- `collect` runs iff DIRECTORY is a directory; then the keyword arguments are the options, unchanged.
(This restates `collectPlan`: an `example`, not an obligation — the wiring is tied by the harness.) -/
example (a : CollectArgs) (w : World) :
    (w.isDir (PPath.parse a.directory) = false → collectPlan a w = .exit .noDirectory) ∧
    (w.isDir (PPath.parse a.directory) = true → ∃ p, collectPlan a w = .run p ∧
      p.directory = PPath.parse a.directory ∧ p.ignoreTimestamps = a.noTimestamp ∧
      p.cleanup = a.cleanup ∧ p.skip = a.skip ∧ p.glob = a.glob ∧ p.printPerformances = a.log) := by
  constructor
  · intro h; simp [collectPlan, h]
  · intro h; simp [collectPlan, h]

/-- **C18 (taxonomy precedence).** Explicit path, else `DIRECTORY/../taxonomy.tsv` if it is a file, else
the bundled taxonomy (`none`) — whatever else is on the file system. -/
theorem C18_taxonomy_precedence (a : CollectArgs) (w : World) (p : CollectPlan)
    (h : collectPlan a w = .run p) :
    let sibling := (PPath.parse a.directory).parent.child "taxonomy.tsv".toList
    (a.taxonomy ≠ [] → p.taxonomy = some (PPath.parse a.taxonomy)) ∧
    (a.taxonomy = [] → w.isFile sibling = true → p.taxonomy = some sibling) ∧
    (a.taxonomy = [] → w.isFile sibling = false → p.taxonomy = none) := by
  simp only [(collectPlan_run a w p h).1, taxonomyFor]
  refine ⟨fun ht => ?_, fun ht hf => ?_, fun ht hf => ?_⟩
  · rw [if_pos (by simpa using ht)]
  · rw [ht, if_neg (by decide), if_pos hf]
  · rw [ht, if_neg (by decide), if_neg (by rw [hf]; decide)]

/-- **C18 (domain of the documented taxonomy rule).** The sibling taxonomy the code looks for is
`parent(DIRECTORY)/taxonomy.tsv` with the LEXICAL parent of the path as typed. This is the documented
`DIRECTORY/../taxonomy.tsv` exactly when the last component of DIRECTORY is a real name: neither empty
(`.`, `./`, the empty string) nor `..` (`..`, `a/..`). Outside this domain the code deviates from the
documentation — finding F35, notes/findings/C18-collect-dot.md. -/
theorem C18_taxonomy_documented (d : PPath) (cwd : List Str) (h1 : d.name ≠ []) (h2 : d.name ≠ ['.', '.']) :
    (d.parent.child "taxonomy.tsv".toList).resolve cwd =
      ((d.child ['.', '.']).child "taxonomy.tsv".toList).resolve cwd ∧
    d.parent.resolve cwd = (d.child ['.', '.']).resolve cwd := by
  obtain ⟨abs, parts⟩ := d
  rcases List.eq_nil_or_concat parts with rfl | ⟨pre, l, rfl⟩
  · exact absurd rfl h1
  · have hl : l ≠ ['.', '.'] := by simpa [PPath.name, List.concat_eq_append] using h2
    simp only [PPath.parent, PPath.child, List.concat_eq_append, List.dropLast_concat, List.append_assoc,
      List.cons_append, List.nil_append]
    exact ⟨(resolve_dotdot cwd abs pre l hl _).symm, by simpa using (resolve_dotdot cwd abs pre l hl []).symm⟩

-- Here and in the test vectors below: evaluating `String.toList` on a literal decodes its UTF-8 bytes,
-- which is slow in the kernel; `String.toList_ofList` reads the characters off the literal instead.
example : (PPath.parse "progs/sub".toList).name ≠ [] ∧ (PPath.parse "progs/sub".toList).name ≠ ['.', '.'] := by
  rw [String.toList_ofList]
  decide +kernel
/-- outside the domain: for `.` the lexical parent is `.` itself, not `..` (finding F35) -/
example : (PPath.parse ".".toList).parent.resolve ["w".toList, "progs".toList] ≠
    ((PPath.parse ".".toList).child ['.', '.']).resolve ["w".toList, "progs".toList] := by decide +kernel

theorem collect_out (a : CollectArgs) (w : World) (p : CollectPlan) (h : collectPlan a w = .run p) :
    p.out = collectOut (PPath.parse a.directory) a.output :=
  (collectPlan_run a w p h).2

/-- **C18 (default output of collect).** Without `--output`: a JSON file `DIRECTORY_db.json` next to
DIRECTORY. -/
theorem C18_output_default_collect (a : CollectArgs) (w : World) (p : CollectPlan)
    (h : collectPlan a w = .run p) (ho : a.output = []) :
    p.out = .json ((PPath.parse a.directory).parent.child
      ((PPath.parse a.directory).name ++ "_db.json".toList)) := by
  rw [collect_out a w p h]; exact (collectOut_spec _ _).1 ho

/-- **C18 (format by extension).** With `--output=PATH`: `.json` → JSON at PATH; `.sqlite` or `.sql` →
SQLite at PATH; any other extension: nothing is written (as the code stands). -/
theorem C18_format_by_extension (a : CollectArgs) (w : World) (p : CollectPlan)
    (h : collectPlan a w = .run p) (ho : a.output ≠ []) :
    ((∃ stem, a.output = stem ++ ".json".toList) → p.out = .json (PPath.parse a.output)) ∧
    ((¬ ∃ stem, a.output = stem ++ ".json".toList) →
      ((∃ stem, a.output = stem ++ ".sqlite".toList) ∨ (∃ stem, a.output = stem ++ ".sql".toList)) →
      p.out = .sqlite (PPath.parse a.output)) ∧
    ((¬ ∃ stem, a.output = stem ++ ".json".toList) → (¬ ∃ stem, a.output = stem ++ ".sqlite".toList) →
      (¬ ∃ stem, a.output = stem ++ ".sql".toList) → p.out = .nothing) := by
  rw [collect_out a w p h]
  exact (collectOut_spec _ _).2 ho

example : collectOut (PPath.parse "a/progs".toList) [] = .json (PPath.parse "a/progs_db.json".toList) := by
  rw [String.toList_ofList, String.toList_ofList]
  decide +kernel
example : collectOut (PPath.parse "a/progs".toList) "out/x.sql".toList =
    .sqlite (PPath.parse "out/x.sql".toList) := by
  rw [String.toList_ofList, String.toList_ofList]
  decide +kernel

/-! ## recommend -/

/-- **C18 (database lookup).** DB_PATH must exist. A file is the database itself. A directory `D` stands
for `D_db.json` next to `D` (the documented shortcut). As the code stands its fallback candidate is
`D_db.json-db.json` — the loop appends `-db` to the path it has just rebound — so a database named
`D-db.json` is never found (observation recorded in notes/findings/C18-dash-db-fallback.md; the
documented rule only promises `D_db.json`). If neither candidate is a file the command stops. -/
theorem C18_db_lookup (a : RecArgs) (w : World) :
    let given := PPath.parse a.dbPath
    let c1 := given.parent.child (given.name ++ "_db.json".toList)
    let c2 := given.parent.child (c1.name ++ "-db.json".toList)
    (w.exists given = false → recommendPlan a w = .exit .noDbPath) ∧
    (w.isDir given = true → w.isFile c1 = false → w.isFile c2 = false →
      recommendPlan a w = .exit .noDatabase) ∧
    (∀ p, recommendPlan a w = .run p →
      (w.isDir given = false → p.db = given ∧ p.announcedDb = false) ∧
      (w.isDir given = true → w.isFile c1 = true → p.db = c1 ∧ p.announcedDb = true) ∧
      (w.isDir given = true → w.isFile c1 = false → p.db = c2 ∧ p.announcedDb = true)) := by
  refine ⟨?_, ?_, ?_⟩
  · intro h; simp [recommendPlan, h]
  · intro hd h1 h2
    have he : w.exists (PPath.parse a.dbPath) = true := by simp [World.exists, hd]
    have hn : findDb w (PPath.parse a.dbPath) = none := by
      simp only [findDb, hd, dbLookup, h1, h2, if_true, Bool.false_eq_true, if_false, Option.map_none]
    simp [recommendPlan, he, hn]
  · intro p hp
    obtain ⟨_, hf, _⟩ := recommendPlan_run a w p hp
    unfold findDb at hf
    refine ⟨fun hd => ?_, fun hd h1 => ?_, fun hd h1 => ?_⟩
    · simp only [hd, Bool.false_eq_true, if_false, Option.some.injEq, Prod.mk.injEq] at hf
      exact ⟨hf.1.symm, hf.2.symm⟩
    · simp only [hd, if_true, dbLookup, h1, Option.map_some, Option.some.injEq, Prod.mk.injEq] at hf
      exact ⟨hf.1.symm, hf.2.symm⟩
    · simp only [hd, if_true, dbLookup, h1, Bool.false_eq_true, if_false] at hf
      split at hf
      · simp only [Option.map_some, Option.some.injEq, Prod.mk.injEq] at hf
        exact ⟨hf.1.symm, hf.2.symm⟩
      · cases hf

/-- **C18 (prefix).** The prefix is what precedes `db.json` in the name of the database, provided it
ends with `_` or `-` and has something before; otherwise it is empty. -/
theorem C18_prefix :
    (∀ (y : Str) (c : Char), y ≠ [] → '\n' ∉ y → (c = '_' ∨ c = '-') →
      prefixOf (y ++ [c] ++ "db.json".toList) = y ++ [c]) ∧
    (∀ name : Str, prefixOf name = [] ∨
      (name = prefixOf name ++ "db.json".toList ∧
        ∃ y c, prefixOf name = y ++ [c] ∧ y ≠ [] ∧ (c = '_' ∨ c = '-'))) := by
  constructor
  · intro y c hy hn hc
    rw [prefixOf_append, List.getLast?_concat]
    simp [hc, hn, hy]
  · intro name
    by_cases he : endsWith name "db.json".toList = true
    · obtain ⟨x, rfl⟩ := (endsWith_iff _ _).mp he
      rw [prefixOf_append]
      split
      · rename_i c hc
        split
        · rename_i hcond
          have hne : x ≠ [] := fun h => by rw [h] at hc; cases hc
          have hx : x.dropLast ++ [c] = x := by
            rw [List.getLast?_eq_some_getLast hne] at hc
            rw [← Option.some.inj hc, List.dropLast_concat_getLast]
          refine Or.inr ⟨rfl, x.dropLast, c, hx.symm, fun hd => ?_, hcond.1⟩
          have := hcond.2.1
          rw [← hx, hd] at this
          cases this with | step h => cases h
        · exact Or.inl rfl
      · exact Or.inl rfl
    · exact Or.inl (by rw [prefixOf]; exact if_neg he)

example : prefixOf "programs_db.json".toList = "programs_".toList := by
  rw [String.toList_ofList, String.toList_ofList]
  decide +kernel
example : prefixOf "programs-db.json".toList = "programs-".toList := by
  rw [String.toList_ofList, String.toList_ofList]
  decide +kernel
example : prefixOf "db.json".toList = [] := by decide +kernel
example : prefixOf "_db.json".toList = [] := by
  rw [String.toList_ofList]
  decide +kernel
example : prefixOf "programs.json".toList = [] := by
  rw [String.toList_ofList]
  decide +kernel

/-- **C18 (pipeline, base, output of recommend).** For a plan that runs: the pipeline is `--pipe` or
`PREFIXpipe.py` next to DB_PATH when that is a readable file, the empty pipeline for `--pipe=[]`
otherwise; the base path is `--base` or DB_PATH's parent; the cost strategy is `--cost`; the output is
stdout for `--output=STDOUT` (any case), else `--output`, else `PREFIXrecommendations.md` next to DB_PATH. -/
theorem C18_output_default_recommend (a : RecArgs) (w : World) (p : RecPlan)
    (h : recommendPlan a w = .run p) :
    let parent := (PPath.parse a.dbPath).parent
    let pp := if a.pipe = [] then parent.child (p.pfx ++ "pipe.py".toList) else PPath.parse a.pipe
    p.pfx = prefixOf p.db.name ∧
    (w.isFile pp = true → p.pipe = .file pp ∧ w.pipelineParses pp = true) ∧
    (w.isFile pp = false → p.pipe = .empty ∧ a.pipe = "[]".toList) ∧
    p.base = (if a.base = [] then parent else PPath.parse a.base) ∧
    p.cost = a.cost ∧
    (a.output.map asciiUpper = "STDOUT".toList → p.out = .stdout) ∧
    (a.output = [] → p.out = .file (parent.child (p.pfx ++ "recommendations.md".toList))) ∧
    (a.output ≠ [] → a.output.map asciiUpper ≠ "STDOUT".toList → p.out = .file (PPath.parse a.output)) := by
  obtain ⟨_, _, hpfx, hpipe, hbase, hcost, _, hout, _⟩ := recommendPlan_run a w p h
  obtain ⟨p1, p2⟩ := pipeFor_spec w a _ _ _ hpipe
  obtain ⟨o1, o2, o3⟩ := recOut_spec a p.pfx (PPath.parse a.dbPath).parent
  have hpp : pipePath a p.pfx (PPath.parse a.dbPath).parent =
      (if a.pipe = [] then (PPath.parse a.dbPath).parent.child (p.pfx ++ "pipe.py".toList)
       else PPath.parse a.pipe) := by
    unfold pipePath; cases a.pipe <;> rfl
  have hb : baseFor a (PPath.parse a.dbPath).parent =
      (if a.base = [] then (PPath.parse a.dbPath).parent else PPath.parse a.base) := by
    unfold baseFor; cases a.base <;> rfl
  simp only
  rw [← hpp, hout, hbase, hb]
  exact ⟨hpfx, p1, p2, rfl, hcost, o1.mpr, o2, o3⟩

/-- **C18 (stdout mode)** — repair 8fecc4f (finding 24). The messages of the command go to stderr
exactly when the program list goes to stdout: in STDOUT mode the standard output is the selection
the library produces and nothing else. -/
theorem C18_stdout_mode (a : RecArgs) (w : World) (p : RecPlan) (h : recommendPlan a w = .run p) :
    (p.messagesOnStderr = true ↔ p.out = .stdout) ∧
    (p.out = .stdout ↔ a.output.map asciiUpper = "STDOUT".toList) := by
  obtain ⟨_, _, _, _, _, _, _, hout, hm⟩ := recommendPlan_run a w p h
  have ho := (recOut_spec a p.pfx (PPath.parse a.dbPath).parent).1
  rw [← hout] at ho
  exact ⟨by rw [hm, ho, decide_eq_true_iff], ho⟩

/-- Non-vacuity of the hypotheses `recommendPlan a w = .run p`: the directory shortcut with
`-o stdout`, in a world where `progs` is a directory next to `progs_db.json` and `progs_pipe.py`. -/
def exampleWorld : World where
  isDir := fun p => p == PPath.parse "progs".toList
  isFile := fun p => p == PPath.parse "progs_db.json".toList || p == PPath.parse "progs_pipe.py".toList
  pipelineParses := fun _ => true
  readable := fun _ => true
  cwd := ["w".toList]

def exampleArgs : RecArgs :=
  ⟨"progs".toList, [], "zeno".toList, "stdout".toList, [], "`{name}`".toList⟩

example : ∃ p, recommendPlan exampleArgs exampleWorld = .run p ∧
    p.db = PPath.parse "progs_db.json".toList ∧ p.announcedDb = true ∧ p.pfx = "progs_".toList ∧
    p.pipe = .file (PPath.parse "progs_pipe.py".toList) ∧ p.out = .stdout ∧ p.messagesOnStderr = true := by
  unfold exampleArgs exampleWorld
  repeat rw [String.toList_ofList]
  exact exists_run (by decide +kernel)

/-! ## tag -/

/-- `tag` calls `cli_tag.main` on the file's text with: labels iff `--labels`, the file's parent as
relative path, Markdown iff `--format` is `md`, the given taxonomy or the bundled one.
(This restates `tagPlan`: an `example`, not an obligation — tied by the harness.) -/
example (a : TagArgs) (w : World) :
    (w.readable (PPath.parse a.filename) = false → tagPlan a w = .exit .unreadable) ∧
    (w.readable (PPath.parse a.filename) = true → ∃ p, tagPlan a w = .run p ∧
      p.file = PPath.parse a.filename ∧ p.labelsNotTaxa = a.labels ∧
      p.relativePath = (PPath.parse a.filename).parent ∧
      (p.markdown = true ↔ a.format = "md".toList) ∧
      (a.taxonomy = [] → p.taxonomy = none) ∧
      (a.taxonomy ≠ [] → p.taxonomy = some (PPath.parse a.taxonomy))) := by
  constructor
  · intro h; simp [tagPlan, h]
  · intro h
    refine ⟨_, by simp only [tagPlan, h]; rfl, rfl, rfl, rfl, by simp, ?_, ?_⟩
    · intro ht; simp [ht]
    · intro ht; simp [ht]

/-! ## list_programs -/

/-- **C18 (listing).** Whatever `glob` returns and whatever the skip pattern matches: the listed files
are exactly the globbed files whose NAME the skip pattern does not fully match (with multiplicity),
in `pathlib`'s order. -/
theorem C18_listing (globbed : List PPath) (skips : Str → Bool) :
    let r := selectPrograms globbed skips
    r.Pairwise (fun p q => pathLe p q = true) ∧
    r.Perm (globbed.filter fun p => !skips p.name) ∧
    (∀ p, p ∈ r ↔ p ∈ globbed ∧ skips p.name = false) := by
  simp only [selectPrograms]
  refine ⟨?_, ?_, ?_⟩
  · apply List.Pairwise.filter
    exact List.pairwise_mergeSort (le := pathLe)
      (fun a b c h1 h2 => lexLe_trans _ _ _ h1 h2) (fun a b => lexLe_total _ _) globbed
  · exact (List.mergeSort_perm globbed pathLe).filter _
  · intro p
    simp only [List.mem_filter, Bool.not_eq_eq_eq_not, Bool.not_true]
    rw [(List.mergeSort_perm globbed pathLe).mem_iff]

/-- The default patterns apply exactly when the option is empty. -/
theorem C18_default_patterns (given dflt : Str) :
    (given = [] → effectivePattern given dflt = dflt) ∧
    (given ≠ [] → effectivePattern given dflt = given) := by
  constructor
  · intro h; simp [effectivePattern, h]
  · intro h; simp [effectivePattern, h]

example : pathLe (PPath.parse "d/a/x.py".toList) (PPath.parse "d/a-b.py".toList) = true := by
  rw [String.toList_ofList, String.toList_ofList]
  decide +kernel
example : pathLe (PPath.parse "d/a-b.py".toList) (PPath.parse "d/a/x.py".toList) = false := by
  rw [String.toList_ofList, String.toList_ofList]
  decide +kernel
example : defaultSkips "a_test.py".toList = true ∧ defaultSkips "__init__.py".toList = true ∧
    defaultSkips "test.py".toList = false ∧ defaultSkips "setup.py.py".toList = false := by
  rw [String.toList_ofList, String.toList_ofList, String.toList_ofList, String.toList_ofList]
  decide +kernel

end Paroxy.Props.C18
