/-
C10 — An occurrence is counted at its most specific taxa only.

Property theorems only. They are about `Dedup.deduplicatedTaxa`, the model of
`paroxython/map_taxonomy.py: deduplicated_taxa` (loops, Counter operations and POSIX `commonpath`
transcribed in `Model/Bag.lean`, `Model/Dedup.lean`), for **every** list of taxa whose names are
strictly sorted (code-point order, as `sorted(acc.items())` yields) and clean (no empty or `.`
segment, except that ONE trailing `/` is allowed: the default taxonomy produces
`flow/exception/catch/`), and whose bags are dicts with positive counts — any number of roots, any characters in the
names, in particular punctuation sorting before `/` between a taxon and its descendants.

`cnt T n s` is the raw count of span `s` for name `n`; "more specific" = proper segment-prefix
(`Spec.Dedup.descB`). The clauses are defined in `Spec/Dedup.lean`.
-/
import Paroxy.Spec.Dedup
import Paroxy.Proofs.DedupLift
import Paroxy.Proofs.Commonpath
import Paroxy.Proofs.DedupSpec
import Paroxy.Proofs.ToTaxa
namespace Paroxy.Props.C10
open Paroxy Paroxy.Dedup Paroxy.Spec.Dedup
variable {σ : Type} [DecidableEq σ]

/-- On strictly sorted clean names the model is the pure double loop whose test is "the previous
name is a proper segment-prefix of the current one": `commonpath` never raises. -/
theorem C10_model_clean (T : List (Name × Bag σ))
    (hs : StrictSorted (T.map Prod.fst)) (hc : CleanNames (T.map Prod.fst)) :
    deduplicatedTaxa T = .ok (dedup (DedupLift.actOf descB) T) :=
  DedupLift.dedupE_eq actE (DedupLift.actOf descB) T (Commonpath.actE_pairwise hs hc)

/-- **C10 (no count is invented).** Every entry remaining in the output belongs to an input taxon,
is positive, and is at most the raw count of that taxon on that span. -/
theorem C10_no_invention (T : List (Name × Bag σ))
    (hs : StrictSorted (T.map Prod.fst)) (hc : CleanNames (T.map Prod.fst)) (hg : GoodBags T) :
    ∃ out, deduplicatedTaxa T = .ok out ∧ NoInvention T out :=
  ⟨_, C10_model_clean T hs hc, (Commonpath.clauses_of_sorted T hs hg).1⟩

/-- **C10 (unshared spans are kept).** A taxon keeps its full raw count on every span that no more
specific taxon of the program has. -/
theorem C10_unshared_kept (T : List (Name × Bag σ))
    (hs : StrictSorted (T.map Prod.fst)) (hc : CleanNames (T.map Prod.fst)) (hg : GoodBags T) :
    ∃ out, deduplicatedTaxa T = .ok out ∧ UnsharedKept descB T out :=
  ⟨_, C10_model_clean T hs hc, (Commonpath.clauses_of_sorted T hs hg).2.1⟩

/-- **C10 (covered spans are lost).** A taxon loses a span entirely when its raw count there does
not exceed the total raw count of its nearest more specific taxa on that span. -/
theorem C10_covered_lost (T : List (Name × Bag σ))
    (hs : StrictSorted (T.map Prod.fst)) (hc : CleanNames (T.map Prod.fst)) (hg : GoodBags T) :
    ∃ out, deduplicatedTaxa T = .ok out ∧ CoveredLost descB T out :=
  ⟨_, C10_model_clean T hs hc, (Commonpath.clauses_of_sorted T hs hg).2.2⟩

/-- The output lists the surviving taxa in the input order, each at most once; with at least two
taxa no empty bag survives. -/
theorem C10_names_kept_in_order (T : List (Name × Bag σ))
    (hs : StrictSorted (T.map Prod.fst)) (hc : CleanNames (T.map Prod.fst)) :
    ∃ out, deduplicatedTaxa T = .ok out ∧ List.Sublist (out.map Prod.fst) (T.map Prod.fst) ∧
      (2 ≤ T.length → ∀ e ∈ out, e.2 ≠ []) := by
  refine ⟨_, C10_model_clean T hs hc, ?_, ?_⟩
  · unfold dedup
    split
    · exact List.Sublist.refl _
    · have := DedupLift.names_finalize_sublist (outer (DedupLift.actOf descB) [] T)
      rwa [DedupLift.names_outer, List.map_nil, List.reverse_nil, List.nil_append] at this
  · intro h2 e he
    unfold dedup at he
    rw [if_neg (by omega)] at he
    obtain ⟨e₀, _, rfl, hne⟩ := DedupLift.mem_finalize.mp he
    exact hne

/-- The executable forms run by the driver on the implementation's output decide the clauses. -/
theorem C10_exec_forms (T out : List (Name × Bag σ)) :
    (noInventionS T out = true ↔ NoInvention T out) ∧
    (unsharedKeptS T out = true ↔ UnsharedKept descB T out) ∧
    (coveredLostS T out = true ↔ CoveredLost descB T out) :=
  ⟨DedupSpec.noInventionB_iff T out, DedupSpec.unsharedKeptB_iff descB T out,
    DedupSpec.coveredLostB_iff descB T out⟩

/-- **C10 (through `Taxonomy.to_taxa`).** What `to_taxa` feeds to `deduplicated_taxa` —
`sorted(acc.items())` after the accumulation loop, from ANY state of the instance, any oracle, any
labels — is strictly sorted by name and has dict bags with positive counts. So the three clauses hold
of the result of `to_taxa` as soon as the taxon names the taxonomy produces are admissible
(`CleanNames`: the only hypothesis left, a property of the taxonomy's replacement patterns). -/
theorem C10_to_taxa (o : Taxo.Oracle) (st : Taxo.State) (labels : List (Taxo.Str × List σ)) :
    let raw := Taxo.sortTaxa (Taxo.accumulate o st [] labels).2
    StrictSorted (raw.map Prod.fst) ∧ GoodBags raw ∧
      (CleanNames (raw.map Prod.fst) →
        ∃ out, (Taxo.toTaxa o st labels).2 = .ok out ∧
          NoInvention raw out ∧ UnsharedKept descB raw out ∧ CoveredLost descB raw out) := by
  intro raw
  have hacc : ToTaxa.AccOK (Taxo.accumulate o st [] labels).2 :=
    ToTaxa.accOK_accumulate o labels st [] ⟨by simp, by intro e he; cases he⟩
  have hs : StrictSorted (raw.map Prod.fst) := ToTaxa.strictSorted_sortTaxa hacc.1
  have hg : GoodBags raw := by
    intro e he
    exact hacc.2 e ((ToTaxa.sortTaxa_perm _).mem_iff.mp he)
  refine ⟨hs, hg, fun hc => ?_⟩
  exact ⟨_, C10_model_clean raw hs hc, Commonpath.clauses_of_sorted raw hs hg⟩

/-! ### Non-vacuity: an unrelated root sorting between a taxon and its descendant (where the code, when it
still left the inner loop at the first unrelated name, was wrong).

Names `a`, `a-b/x`, `a/y` (`-` sorts before `/`, so the unrelated root `a-b` sits between `a` and its
descendant `a/y`), all on the same span `7`. The hypotheses hold, `a` is covered by `a/y` and
disappears. -/

def ex : List (Name × Bag Nat) :=
  [(['a'], [(7, 1)]), (['a', '-', 'b', '/', 'x'], [(7, 1)]), (['a', '/', 'y'], [(7, 1)])]

example : StrictSorted (ex.map Prod.fst) := by unfold StrictSorted; decide +kernel
example : CleanNames (ex.map Prod.fst) := by unfold CleanNames; decide +kernel
example : GoodBags ex := (DedupSpec.goodBagsB_iff ex).mp (by decide +kernel)
example : deduplicatedTaxa ex
    = .ok [(['a', '-', 'b', '/', 'x'], [(7, 1)]), (['a', '/', 'y'], [(7, 1)])] := by
  decide +kernel
example : cnt ex ['a'] 7 = 1 ∧ nearestTotal descB ex ['a'] 7 = 1 := by decide +kernel

/-! ### Non-vacuity: a trailing `/`, as the default taxonomy produces for `except MyError:`
(`flow/exception/catch/\\1` with a non-participating group). `flow/exception/catch/` is a child of
`flow/exception/catch` and a sibling of `flow/exception/catch/ValueError`. -/

def exCatch : List (Name × Bag Nat) :=
  [("flow/exception/catch".toList, [(3, 2)]), ("flow/exception/catch/".toList, [(3, 1)]),
   ("flow/exception/catch/ValueError".toList, [(3, 1), (5, 1)])]

-- Here and in the test vectors below: evaluating `String.toList` on a literal decodes its UTF-8 bytes,
-- which is slow in the kernel; `String.toList_ofList` reads the characters off the literal instead.
example : StrictSorted (exCatch.map Prod.fst) := by
  unfold StrictSorted exCatch
  repeat rw [String.toList_ofList]
  decide +kernel
example : CleanNames (exCatch.map Prod.fst) := by
  unfold CleanNames exCatch
  repeat rw [String.toList_ofList]
  decide +kernel
example : GoodBags exCatch := (DedupSpec.goodBagsB_iff exCatch).mp (by decide +kernel)
example : cleanB "flow/exception/catch/".toList = false := by
  rw [String.toList_ofList]
  decide +kernel
example : deduplicatedTaxa exCatch
    = .ok [("flow/exception/catch/".toList, [(3, 1)]),
           ("flow/exception/catch/ValueError".toList, [(3, 1), (5, 1)])] := by
  unfold exCatch
  repeat rw [String.toList_ofList]
  decide +kernel

end Paroxy.Props.C10
