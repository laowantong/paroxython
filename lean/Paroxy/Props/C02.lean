/-
C02 — Every reported span is a valid line range of the stored listing (partial).

Proved here:
 * the spans scheduled by hints (`get_program`): valid line ranges of the stored source for EVERY
   text (`C02_hint_spans`, no hypothesis);
 * the span of the `ast_construction:*` error label is (1, number of lines);
 * `get_bindings`: start / end are the smaller / the larger of the line numbers of the first and the last captured
   `POS` (or of the paired `POS`): `C02_binding_span`, hence `start ≤ end` (`C02_binding_ordered`).
Only exercised by harness/c02.py (not theorems): the 171 other features and the SQL-derived spans,
CPython's line numbers (see DESIGN §5/C02).
The second half of the file is about the spans of the `node` and `whole_span` features on the tree model of C15/C01
(`Paroxy.Flat`).
-/
import Paroxy.Proofs.HintsSpans
import Paroxy.Proofs.HintsPrepare
import Paroxy.Proofs.HintsAllTexts
import Paroxy.Proofs.HintsSpaced
import Paroxy.Model.ParseGlue
import Paroxy.Proofs.NodeSpanTree
import Paroxy.Proofs.NodeCaptures
import Paroxy.Proofs.WholeSpan
import Paroxy.Proofs.FlatEntries
import Paroxy.Props.C15
namespace Paroxy.Props.C02
open Paroxy Paroxy.Hints Paroxy.Glue

variable {O : CharOracle}

/-- The property predicate: a valid line range of a listing. -/
def ValidSpan (listing : Str) (s e : Nat) : Prop := 1 ≤ s ∧ s ≤ e ∧ e ≤ lineCount listing

/-- Executable form (driver op `c02.spec_valid`). -/
def validSpanB (listing : Str) (s e : Nat) : Bool := decide (1 ≤ s) && decide (s ≤ e) && decide (e ≤ lineCount listing)

theorem C02_validSpanB_iff (listing : Str) (s e : Nat) : validSpanB listing s e = true ↔ ValidSpan listing s e := by
  simp [validSpanB, ValidSpan, and_assoc]

/-- **C02 (hint spans, all texts).** Whatever the text: every span `get_program` schedules is an
ordered pair of line numbers of the centrifugated text (the text in which `collect_hints` numbers
the lines, after normalisation of the markers and trimming of the blank ends). What can still go
wrong is only a difference between the number of lines of that text and of the stored source. -/
theorem C02_hint_spans_centrifugated (src c : Str) (p : Program)
    (hc : (centrifugate O) ((prepare O) src) = .ok c) (h : (getProgram O) src = .ok p) :
    ∀ e ∈ p.addition.entries ++ p.deletion.entries, ValidSpan c e.2.1 e.2.2 := by
  unfold getProgram getProgramFrom at h
  simp only [hc] at h
  split at h
  · cases h
  · rename_i a d hcol
    cases h
    exact collectHints_spans c a d hcol

/-- **C02 (hint spans), full.** For EVERY text: whenever `get_program` returns, every span it
schedules is a valid line range of the stored source — `1 ≤ start ≤ end ≤ number of lines of the
stored source`. (The stored source has exactly as many lines as the text the hints were numbered
on: `remove_hints` swallows no line break and strips no end line; no hypothesis on emptiness nor on
the characters of the text is needed since 80f9da8. Since F46 `remove_hints` deletes `# paroxython:`
comments with or without a space after the colon: that it never deletes a line `centrifugate_hints`
kept rests on the normalisation of the markers, `prepare_spaced`.) -/
theorem C02_hint_spans (src : Str) (p : Program) (h : (getProgram O) src = .ok p) :
    ∀ e ∈ p.addition.entries ++ p.deletion.entries, ValidSpan p.source e.2.1 e.2.2 := by
  unfold getProgram getProgramFrom at h
  split at h
  · cases h
  · rename_i c hc
    split at h
    · cases h
    · rename_i a d hcol
      cases h
      intro e he
      simp only [ValidSpan]
      rw [lineCount_stored _ c (prepare_spaced src) hc]
      exact collectHints_spans c a d hcol e he

-- In the test vectors of this file: evaluating `String.toList` on a literal decodes its UTF-8 bytes, which is
-- slow in the kernel; `String.toList_ofList` reads the characters off the literal instead.
/-- The input of the repaired finding F07d (a separator 0x1c in front of a hint comment on the first
line): the line is now a hint alone on its line, `bar` is scheduled on the single stored line. -/
example : (getProgram asciiOracle) "\x1c # paroxython: foo\nx = 1 # paroxython: bar".toList =
    .ok ⟨"x = 1".toList, [("bar".toList, [(1, 1)]), ("foo".toList, [(1, 1)])], []⟩ := by
  rw [String.toList_ofList, String.toList_ofList, String.toList_ofList, String.toList_ofList]
  decide +kernel

/-- Non-vacuity of `C02_hint_spans`, on the inputs of the repaired findings 7, 7b and 7c. -/
example : (getProgram asciiOracle) "# paroxython: foo\n\nx = 1".toList =
    .ok ⟨"x = 1".toList, [("foo".toList, [(1, 1)])], []⟩ := by
  rw [String.toList_ofList, String.toList_ofList, String.toList_ofList]
  decide +kernel
example : (getProgram asciiOracle) "x = 1\n\n# paroxython: foo".toList =
    .ok ⟨"x = 1".toList, [("foo".toList, [(1, 1)])], []⟩ := by
  rw [String.toList_ofList, String.toList_ofList, String.toList_ofList]
  decide +kernel

example : (getProgram asciiOracle) "\n\nx = 1 # paroxython: foo\n".toList =
    .ok ⟨"x = 1".toList, [("foo".toList, [(1, 1)])], []⟩ := by
  rw [String.toList_ofList, String.toList_ofList, String.toList_ofList]
  decide +kernel
example : (getProgram asciiOracle) "x = 1\n# paroxython: foo\ny = 2\n".toList =
    .ok ⟨"x = 1\ny = 2".toList, [("foo".toList, [(1, 2)])], []⟩ := by
  rw [String.toList_ofList, String.toList_ofList, String.toList_ofList]
  decide +kernel
example : (getProgram asciiOracle) "x = 1\n# paroxython: \ny = 2 # paroxython: foo".toList =
    .ok ⟨"x = 1\ny = 2".toList, [("foo".toList, [(2, 2)])], []⟩ := by
  rw [String.toList_ofList, String.toList_ofList, String.toList_ofList]
  decide +kernel

/-- **C02 (error span).** The `ast_construction:*` label spans `(1, source.count("\n") + 1)`,
which is the whole stored listing: a valid line range whatever the text. -/
theorem C02_error_span (source : Str) :
    errorSpan source = (1, lineCount source) ∧ ValidSpan source (errorSpan source).1 (errorSpan source).2 := by
  have h : errorSpan source = (1, lineCount source) := by simp [errorSpan, lineCount_eq]
  refine ⟨h, ?_⟩
  rw [h]
  simp only [ValidSpan]
  have : 1 ≤ lineCount source := by rw [lineCount_eq]; omega
  omega

/-- **C02 (binding span).** Every binding `get_bindings` yields carries, as start and end, the
ORDERED pair of the line numbers of two captured `POS`: the same `POS` twice when positions and
suffixes are paired, the first and the last `POS` otherwise (start = the smaller line, end = the
larger one, since 44b0b15: the last capture follows the first in the flat AST, not necessarily in
the source); its path is that of the first of the two. -/
theorem C02_binding_span (label pos0 : Str) (posRest suffix : List Str) (occs : List Occ)
    (h : getBindings label pos0 posRest suffix = .ok occs) :
    ∀ o ∈ occs, ∃ s e : Nat, o.2.1 = min s e ∧ o.2.2.1 = max s e ∧
      ((∃ q ∈ pos0 :: posRest, parsePos q = .ok (s, o.2.2.2) ∧ e = s) ∨
       (parsePos pos0 = .ok (s, o.2.2.2) ∧
        ∃ path, parsePos ((pos0 :: posRest).getLast (by simp)) = .ok (e, path))) := by
  have hspan : ∀ a b sp, posToSpan a b = .ok sp → ∃ s e path, sp = (min s e, max s e, sp.2.2) ∧
      parsePos a = .ok (s, sp.2.2) ∧ parsePos b = .ok (e, path) := by
    intro a b sp hsp
    unfold posToSpan at hsp
    split at hsp
    · rename_i s path e pe h1 h2
      cases hsp
      exact ⟨s, e, pe, rfl, h1, h2⟩
    · cases hsp
  -- every occurrence has the span of one position taken twice, or that of the first and the last position
  have key : ∀ o ∈ occs, (∃ q ∈ pos0 :: posRest, posToSpan q q = .ok o.2) ∨
      posToSpan pos0 ((pos0 :: posRest).getLast (by simp)) = .ok o.2 := by
    have paired : ∀ (l : List (Str × Str)) (out : List Occ), pairBindings label l = .ok out →
        ∀ o ∈ out, ∃ x ∈ l, posToSpan x.2 x.2 = .ok o.2 := by
      intro l
      induction l with
      | nil => intro out hout o ho; cases hout; cases ho
      | cons x xs ih =>
        intro out hout o ho
        simp only [pairBindings] at hout
        split at hout
        · cases hout
        · rename_i sp hx
          split at hout
          · cases hout
          · rename_i rest hrest
            cases hout
            rcases List.mem_cons.mp ho with rfl | ho
            · exact ⟨x, List.mem_cons_self, hx⟩
            · obtain ⟨y, hy, hy2⟩ := ih rest hrest o ho
              exact ⟨y, List.mem_cons_of_mem _ hy, hy2⟩
    unfold getBindings at h
    simp only at h
    split at h
    · split at h
      · cases h
      · rename_i sp hsp
        cases h
        intro o ho
        rw [List.mem_singleton.mp ho]
        exact .inr hsp
    · split at h
      · intro o ho
        obtain ⟨x, hx, hsp⟩ := paired _ occs h o ho
        exact .inl ⟨x.2, (List.of_mem_zip hx).2, hsp⟩
      · split at h
        · cases h
        · rename_i sp hsp
          cases h
          intro o ho
          obtain ⟨sfx, _, rfl⟩ := List.mem_map.mp ho
          exact .inr hsp
  intro o ho
  rcases key o ho with ⟨q, hq, hsp⟩ | hsp <;> obtain ⟨s, e, path, hsp', h1, h2⟩ := hspan _ _ _ hsp
  · rw [h1] at h2
    cases h2
    exact ⟨s, s, by rw [hsp'], by rw [hsp'], .inl ⟨q, hq, h1, rfl⟩⟩
  · exact ⟨s, e, by rw [hsp'], by rw [hsp'], .inr ⟨h1, path, h2⟩⟩

/-- **C02 (binding ordered).** Every binding `get_bindings` yields has `start ≤ end`, whatever the
captures (no hypothesis on the order of the captured lines is needed: `pos_to_span` sorts them). -/
theorem C02_binding_ordered (label pos0 : Str) (posRest suffix : List Str) (occs : List Occ)
    (h : getBindings label pos0 posRest suffix = .ok occs) : ∀ o ∈ occs, o.2.1 ≤ o.2.2.1 := by
  intro o ho
  obtain ⟨s, e, h1, h2, _⟩ := C02_binding_span label pos0 posRest suffix occs h o ho
  rw [h1, h2]; omega

/-- The capture order of finding F41 (`def f(a=1,\n *b,\n c=2)`: the default of the first parameter is
listed after the vararg): lines 2 then 1 give the span 1–2. -/
example : getBindings "node:arguments".toList "2:1-".toList ["1:1-0-".toList] [] =
    .ok [("node:arguments".toList, (1, 2, "1-".toList))] := by
  rw [String.toList_ofList, String.toList_ofList, String.toList_ofList, String.toList_ofList]
  decide +kernel

/-- Non-vacuity: the `for` example of the docstring of `get_bindings`. -/
example : getBindings "for".toList "1:1-".toList ["1:1-0-0-1-".toList, "1:1-0-0-2-".toList, "2:1-2-1-".toList]
    ["i".toList, "j".toList] =
    .ok [("for:i".toList, (1, 2, "1-".toList)), ("for:j".toList, (1, 2, "1-".toList))] := by
  repeat rw [String.toList_ofList]
  decide +kernel

/-- A `POS` that is not `line:path` (finding 17: a `:` inside a captured string) is a `ValueError`,
not a span. -/
example : getBindings "x".toList "1:a:b".toList [] [] = .error .valueError := by
  rw [String.toList_ofList, String.toList_ofList]
  decide +kernel

end Paroxy.Props.C02

/-! ## Clauses that live on the tree model of C15 / C01 (`Paroxy.Flat`)

`dumpP h [] [] t` is the flat AST of a (tweaked) tree `t`; `nodeMatches` / `wholeSpanMatch?` are the hand
matchers of the `node` / `whole_span` patterns (validated against the real engine by harness/c01.py and
harness/c02_tree.py). Hypotheses (Bool-valued, evaluated on every real tree, status reported in the
evidence; the span checks of the harness are made on every tree whatever their status):
`lastDescMono` — the line of a positioned node is not after the line of its last positioned strict
descendant in dump order (holds on all real trees seen); `PreorderMonotone` — line numbers never
decrease along the whole pre-order enumeration — is stronger and fails on decorated definitions and
classes and on multi-line conditional expressions. -/
namespace Paroxy.Props.C02
open Paroxy.Flat

/-- **C02 (spans are ordered, unconditionally).** Since fix 44b0b15 `pos_to_span` sorts the two line numbers
it extracts. Hence for **every** text `ls` (no tree, no hypothesis): every span computed from any list of
captures, every `node:` occurrence bound by `get_bindings` to a match of the `node` feature, and every
`whole_span` occurrence has `start ≤ end`. Before the fix this needed the order of the line numbers in the
flat AST (`lastDescMono` below), and failed for nodes **without** a line number whose fields are not in
source order: for `def f(a=1,\n *b,\n c=2)` the `arguments` node captures its `vararg` (line 2) first and
the default value of its first parameter (line 1) last, and `node:arguments` was bound to 2-1
(`sampleDefaults` below). -/
theorem C02_span_ordered (ls : List (List Char)) :
    (∀ pos s, posToSpan? pos = some s → s.start ≤ s.stop) ∧
    (∀ m ∈ nodeMatches ls, ∀ b, nodeBinding? m = some b → b.2.start ≤ b.2.stop) ∧
    (∀ bs, wholeSpanBindings? ls = some bs → ∀ b ∈ bs, b.2.start ≤ b.2.stop) :=
  ⟨fun _ _ h => posToSpan_ordered h, fun _ _ _ hb => nodeBinding_ordered hb,
    fun _ h => wholeSpanBindings_ordered h⟩

/-- **C02 (node spans).** On the dump of a well-formed tree (`treeOk2`, `namesOkTree`), every match of the
`node` feature whose type is a positioned type captures the position of a node of the tree — its own —
and optionally a second one: the position of its **last positioned strict descendant in dump order**.
Hence, as soon as the line of every positioned node is not after the line of that descendant
(`lastDescMono`: exactly what the pattern can capture — decorated definitions satisfy it although line
numbers decrease from the `def` to its decorators), the two captures are already in order (`GoodSpan`): the
sorting of `pos_to_span` changes nothing, the span **starts on the node's own line** and ends on the line of
that descendant. (That `start ≤ end` alone needs no hypothesis: `C02_span_ordered`; it is kept
here as a corollary.) -/
theorem C02_node_span (t0 t : Val) (hwf : treeOk2 t = true) (hnames : namesOkTree t = true)
    (hmono : lastDescMono [] [] t = true) :
    ∀ m ∈ nodeMatches (dumpP (hashFn t0) [] [] t), (posTypes t).contains m.1 = true →
      GoodSpan m ∧ ∀ b, nodeBinding? m = some b → b.2.start ≤ b.2.stop := by
  intro m hm hP
  obtain ⟨MS, hMS, hG⟩ := (nm_all (hashFn t0) (eq_not_mem_hashFn t0) (hashNoNewline_hashFn t0) _).1 t [] [] []
    (treeOk2_entries hwf) hnames hmono (by intro l hl; cases hl)
  have hm' : m ∈ MS := by
    have : nodeMatches (dumpP (hashFn t0) [] [] t) = MS := by
      simpa [encNames, encPath, nodeMatches] using hMS
    rw [this] at hm; exact hm
  exact ⟨hG m hm' hP, fun b hb => nodeBinding_ordered hb⟩

/-- **C02 (captured positions).** On the dump of a well-formed tree, every position captured by a `node`
match of a positioned type is the position text of a node of the tree that carries a line number — no
hypothesis on the line numbers. -/
theorem C02_node_captures (t0 t : Val) (hwf : treeOk2 t = true) :
    ∀ m ∈ nodeMatches (dumpP (hashFn t0) [] [] t), (posTypes t).contains m.1 = true →
      ∀ p ∈ m.2, ∃ ty n a, (ty, n) ∈ positionedNodes t ∧ p = posText n a := by
  intro m hm hP
  obtain ⟨n, a, later, hs, hc⟩ := nodeMatches_dump t0 t hwf m hm hP
  have hown : (m.1, n) ∈ positionedNodes t := hs.subset List.mem_cons_self
  intro p hp
  rcases hc with h1 | ⟨ty', n', a', hl, h2⟩
  · rw [h1] at hp
    exact ⟨m.1, n, a, hown, List.mem_singleton.mp hp⟩
  · rw [h2, List.mem_cons, List.mem_singleton] at hp
    rcases hp with rfl | rfl
    · exact ⟨m.1, n, a, hown, rfl⟩
    · exact ⟨ty', n', a', hs.subset (List.mem_cons_of_mem _ hl), rfl⟩

/-- **C02 (node spans are valid line ranges).** With the single assumption on CPython that the line
numbers of the tree lie within the listing (`1 ≤ lineno ≤ N` for every positioned node), every `node:`
occurrence of a positioned type is bound to a span `1 ≤ start ≤ end ≤ N` — whatever the order of the line
numbers in the tree (no `lastDescMono`, no `namesOkTree`: the order comes from `C02_span_ordered`,
the bounds from `C02_node_captures`). -/
theorem C02_node_span_valid (t0 t : Val) (N : Nat) (hwf : treeOk2 t = true)
    (hlines : ∀ x ∈ positionedNodes t, 1 ≤ x.2 ∧ x.2 ≤ N) :
    ∀ m ∈ nodeMatches (dumpP (hashFn t0) [] [] t), (posTypes t).contains m.1 = true →
      ∀ b, nodeBinding? m = some b → 1 ≤ b.2.start ∧ b.2.start ≤ b.2.stop ∧ b.2.stop ≤ N := by
  intro m hm hP b hb
  have hcap := C02_node_captures t0 t hwf m hm hP
  have bound : ∀ p ∈ m.2, ∀ n x, parsePos? p = some (n, x) → 1 ≤ n ∧ n ≤ N := by
    intro p hp n x hpp
    obtain ⟨ty, n', a', hmem, he⟩ := hcap _ hp
    rw [he, parsePos_posText] at hpp
    simp only [Option.some.injEq, Prod.mk.injEq] at hpp
    rw [← hpp.1]; exact hlines (ty, n') hmem
  rw [nodeBinding_eq, Option.map_eq_some_iff] at hb
  obtain ⟨s, hp, rfl⟩ := hb
  obtain ⟨p, hpm, q, hqm, n1, x, n2, y, h1, h2, hstart, hstop⟩ := posToSpan_lines hp
  have b1 := bound p hpm n1 x h1
  have b2 := bound q hqm n2 y h2
  rw [hstart, hstop]
  exact ⟨Nat.le_min.mpr ⟨b1.1, b2.1⟩, Nat.le_trans (Nat.min_le_left _ _) (Nat.le_max_left _ _),
    Nat.max_le.mpr ⟨b1.2, b2.2⟩⟩

/-- The stronger hypothesis `PreorderMonotone` (line numbers non-decreasing along the whole pre-order enumeration)
is also sufficient; it fails on decorated definitions. -/
theorem C02_node_span_preorder (t0 t : Val) (hwf : treeOk2 t = true) (hmono : PreorderMonotone (entries [] [] t)) :
    ∀ m ∈ nodeMatches (dumpP (hashFn t0) [] [] t), (posTypes t).contains m.1 = true →
      GoodSpan m ∧ ∀ b, nodeBinding? m = some b → b.2.start ≤ b.2.stop := by
  intro m hm hP
  obtain ⟨n, a, later, hs, hc⟩ := nodeMatches_dump t0 t hwf m hm hP
  refine ⟨⟨n, a, ?_⟩, fun b hb => nodeBinding_ordered hb⟩
  rcases hc with h1 | ⟨ty', n', a', hl, h2⟩
  · exact Or.inl h1
  · -- the node's own entry and the later one are both in the enumeration, in this order
    have hpw : ((m.1, n) :: later).Pairwise (fun a b => a.2 ≤ b.2) := List.Pairwise.sublist hs.sublist hmono
    exact Or.inr ⟨n', a', h2, (List.pairwise_cons.mp hpw).1 _ hl⟩

/-- **C02 (node spans, on the real pipeline).** The same for what `flatten_ast` returns, for a tree whose
on-the-fly form satisfies `wfStages6` and `wfTweak` and whose tweaked form `tweak [] …` (the one-shot
specification) satisfies `treeOk2` and
`namesOkTree`, `lastDescMono`. -/
theorem C02_node_span_pipeline (cfg : Cfg) (s : HashState) (t : Val) (ty : List Char) (e : Bool) (r : List Char)
    (ln : Option Nat) (fs : List (List Char × Val)) (ht : prep cfg t = .node ty e r ln fs)
    (hwf : wfStages6 (prep cfg t) = true) (hwt : wfTweak (prep cfg t) = true)
    (hok : treeOk2 (tweak [] (prep cfg t)) = true)
    (hnames : namesOkTree (tweak [] (prep cfg t)) = true)
    (hmono : lastDescMono [] [] (tweak [] (prep cfg t)) = true) :
    ∀ m ∈ nodeMatches (flattenAst cfg s t).1, (posTypes (tweak [] (prep cfg t))).contains m.1 = true →
      GoodSpan m ∧ ∀ b, nodeBinding? m = some b → b.2.start ≤ b.2.stop := by
  rw [Paroxy.Props.C15.C15_flatten_tweaked cfg s t ty e r ln fs ht hwf hwt]
  exact C02_node_span (prep cfg t) (tweak [] (prep cfg t)) hok hnames hmono

/-- Non-vacuity: a two-line module `if x:` / `    pass` (already tweaked). -/
def sampleIf : Val :=
  .node "Module".toList false [] none
    [("body".toList, .list false
      [.node "If".toList false [] (some 1)
        [("test".toList, .node "Name".toList true "Name(id='x')".toList (some 1) [("id".toList, .scalar "x".toList .str)]),
         ("body".toList, .list false [.node "Pass".toList false [] (some 2) []])]])]

example : treeOk2 sampleIf = true ∧ namesOkTree sampleIf = true ∧ lastDescMono [] [] sampleIf = true ∧
    decide (PreorderMonotone (entries [] [] sampleIf)) = true := by decide +kernel
example : (nodeMatches (dumpP (hashFn sampleIf) [] [] sampleIf)).map (·.2) =
    [["1:1-".toList, "2:1-1-1-".toList], ["1:1-0-".toList], ["2:1-1-1-".toList]] := by
  rw [String.toList_ofList, String.toList_ofList, String.toList_ofList]
  decide +kernel

/-- Non-vacuity of the weakening: a decorated definition (`@d` on line 1, `def f():` on line 2, `pass` on
line 3; already tweaked, body last) satisfies `lastDescMono` but not `PreorderMonotone`. -/
def sampleDecorated : Val :=
  .node "Module".toList false [] none
    [("body".toList, .list false
      [.node "FunctionDef".toList false [] (some 2)
        [("name".toList, .scalar "f".toList .str),
         ("decorator_list".toList, .list false
            [.node "Name".toList true "Name(id='d')".toList (some 1) [("id".toList, .scalar "d".toList .str)]]),
         ("body".toList, .list false [.node "Pass".toList false [] (some 3) []])]])]

example : treeOk2 sampleDecorated = true ∧ namesOkTree sampleDecorated = true ∧
    lastDescMono [] [] sampleDecorated = true ∧ decide (PreorderMonotone (entries [] [] sampleDecorated)) = false := by
  decide +kernel

/-- Regression / non-vacuity for `C02_span_ordered` (the former finding F41): `def f(a=1,` / `      *b,` /
`      c=2):` / `    pass` (already tweaked). The `arguments` node has no line number; the `node` pattern
captures the position of its `vararg` (line 2) first and, last in dump order, the default value of the first
parameter (line 1): `node:arguments` was bound to 2-1, it is now bound to 1-2. -/
def sampleDefaults : Val :=
  .node "Module".toList false [] none
    [("body".toList, .list false
      [.node "FunctionDef".toList false [] (some 1)
        [("name".toList, .scalar "f".toList .str),
         ("args".toList, .node "arguments".toList false [] none
            [("args".toList, .list false [.node "arg".toList false [] (some 1) [("arg".toList, .scalar "a".toList .str)]]),
             ("vararg".toList, .node "arg".toList false [] (some 2) [("arg".toList, .scalar "b".toList .str)]),
             ("kwonlyargs".toList, .list false [.node "arg".toList false [] (some 3) [("arg".toList, .scalar "c".toList .str)]]),
             ("kw_defaults".toList, .list false [.node "Num".toList true "Constant(value=2)".toList (some 3) [("n".toList, .scalar "2".toList .num)]]),
             ("defaults".toList, .list false [.node "Num".toList true "Constant(value=1)".toList (some 1) [("n".toList, .scalar "1".toList .num)]])]),
         ("body".toList, .list false [.node "Pass".toList false [] (some 4) []])]])]

example : ((nodeMatches (dumpP (hashFn sampleDefaults) [] [] sampleDefaults)).filter (·.1 == "arguments".toList)).map
    (fun m => (m.2, nodeBinding? m)) =
    [(["2:1-1-1-".toList, "1:1-1-4-1-".toList], some ("node:arguments".toList, ⟨1, 2, "1-1-1-".toList⟩))] := by
  repeat rw [String.toList_ofList]
  decide +kernel
example : treeOk2 sampleDefaults = true ∧ lastDescMono [] [] sampleDefaults = true ∧
    (posTypes sampleDefaults).contains "arguments".toList = false := by decide +kernel

/-- **C02 (whole span).** When `whole_span` captures `<line>:` (first position, path left out) and the
position text of a node, `pos_to_span` yields exactly these two line numbers, sorted: the span is a valid
order whatever the two lines (they are already in order when the two captures are the first and the last
positioned node of the dump and line numbers do not decrease — checked on every real tree by the harness). -/
theorem C02_whole_span (n n' : Nat) (a' : List Nat) :
    ∃ s, posToSpan? [dec n ++ [':'], posText n' a'] = some s ∧ s.start = min n n' ∧ s.stop = max n n' ∧
      s.start ≤ s.stop ∧ (n ≤ n' → s.start = n ∧ s.stop = n') := by
  refine ⟨⟨min n n', max n n', []⟩, posToSpan_whole n n' a', rfl, rfl,
    Nat.le_trans (Nat.min_le_left _ _) (Nat.le_max_left _ _), fun h => ⟨Nat.min_eq_left h, Nat.max_eq_right h⟩⟩

/-- **C02 (`meta/program` once).** For every text, `whole_span` yields at most one occurrence, and
exactly one as soon as the pattern matches (the match is anchored by `\A`); its label is `whole_span`
or `whole_span:<digits>`, both translated by the row `meta/program <tab> whole_span(:.+)?`. -/
theorem C02_meta_program_once (ls : List (List Char)) (bs : List (List Char × SpanP))
    (h : wholeSpanBindings? ls = some bs) :
    bs.length ≤ 1 ∧ (bs.length = 1 ↔ (wholeSpanMatch? ls).isSome = true) ∧
      ∀ b ∈ bs, b.1 = "whole_span".toList ∨ ∃ d, b.1 = "whole_span:".toList ++ d := by
  rcases wholeSpanBindings_cases h with ⟨hm, rfl⟩ | ⟨pos, ds, s, lbl, hm, _, rfl, hl⟩
  · refine ⟨Nat.zero_le _, ⟨fun h0 => ?_, fun h0 => ?_⟩, fun b hb => ?_⟩
    · cases h0
    · rw [hm] at h0; cases h0
    · cases hb
  · refine ⟨Nat.le_refl _, ⟨fun _ => (by rw [hm]; rfl), fun _ => rfl⟩, fun b hb => ?_⟩
    -- the labels of the model are character lists written out
    have e1 : "whole_span".toList = cs!"whole_span" := String.toList_ofList
    have e2 : "whole_span:".toList = cs!"whole_span:" := String.toList_ofList
    rw [List.mem_singleton.mp hb, e1, e2]; exact hl

/-- **C02 (`whole_span` exists and spans first–last).** For a `Module` whose entries are well formed
(`treeOk3`) and which has at least one positioned node, the `whole_span` pattern matches its dump; the
first capture is `<line of the first positioned node>:`, the second one (when another positioned node
follows) is the position text of the **last** positioned node in dump order, whose line is the suffix. -/
theorem C02_whole_span_exists (t0 : Val) (r : List Char) (fs : List (List Char × Val))
    (hok : treeOk3 (.node "Module".toList false r none fs) = true)
    (hne : positionedNodes (.node "Module".toList false r none fs) ≠ []) :
    ∃ n1 rest, firstPosSplit (entriesFields [] [] 0 fs) = some (n1, rest) ∧
      wholeSpanMatch? (dumpP (hashFn t0) [] [] (.node "Module".toList false r none fs)) =
        some (match lastPosOfEntries rest with
          | some (n2, a2) => ([dec n1 ++ [':'], posText n2 a2], [dec n2])
          | none => ([dec n1 ++ [':']], [])) := by
  have hall : ∀ e ∈ entriesFields [] [] 0 fs, e.ok3 = true := by
    intro e he
    exact List.all_eq_true.mp hok e (by simp [entries, he])
  have hne' : positionedOfEntries (entriesFields [] [] 0 fs) ≠ [] := by
    simpa [positionedNodes, entries, positionedOfEntries] using hne
  obtain ⟨n1, rest, hs⟩ := firstPosSplit_some_of_ne hne'
  refine ⟨n1, rest, hs, ?_⟩
  have hd : dumpP (hashFn t0) [] [] (.node "Module".toList false r none fs) =
      cs!"/_type=Module" :: (entriesFields [] [] 0 fs).flatMap (Entry.lines (hashFn t0)) := by
    have e : typeLine [] "Module".toList = cs!"/_type=Module" := by
      rw [String.toList_ofList]
      decide +kernel
    rw [← e, ← dumpPFields_eq_entries (hashFn t0) [] [] 0 fs]
    rfl
  rw [hd]
  exact wholeSpanMatch_entries (hashFn t0) (eq_not_mem_hashFn t0) _ hall hs

/-- **C02 (`meta/program` exactly once).** Under the same hypotheses `get_bindings` yields exactly one
`whole_span` occurrence (translated to `meta/program` by the row `whole_span(:.+)?`), between the line of the
first positioned node and the line of the last one in dump order (the smaller one first). -/
theorem C02_meta_program_exactly_once (t0 : Val) (r : List Char) (fs : List (List Char × Val))
    (hok : treeOk3 (.node "Module".toList false r none fs) = true)
    (hne : positionedNodes (.node "Module".toList false r none fs) ≠ []) :
    ∃ label n1 n2, wholeSpanBindings? (dumpP (hashFn t0) [] [] (.node "Module".toList false r none fs)) =
      some [(label, ⟨n1, n2, []⟩)] ∧ n1 ≤ n2 := by
  obtain ⟨n1, rest, _, hm⟩ := C02_whole_span_exists t0 r fs hok hne
  unfold wholeSpanBindings?
  rw [hm]
  cases hl : lastPosOfEntries rest with
  | none => exact ⟨cs!"whole_span", n1, n1, by simp [posToSpan?, parsePos_lineColon], Nat.le_refl _⟩
  | some p =>
    obtain ⟨n2, a2⟩ := p
    exact ⟨cs!"whole_span:" ++ dec n2, min n1 n2, max n1 n2, by simp [posToSpan_whole],
      Nat.le_trans (Nat.min_le_left _ _) (Nat.le_max_left _ _)⟩

example : treeOk3 sampleIf = true ∧ positionedNodes sampleIf ≠ [] := by decide +kernel

example : wholeSpanBindings? (dumpP (hashFn sampleIf) [] [] sampleIf) =
    some [("whole_span:2".toList, ⟨1, 2, []⟩)] := by
  rw [String.toList_ofList]
  decide +kernel

end Paroxy.Props.C02
