/-
C03 — Tags of a program depend only on its own text.

Property theorems only, about the process state machine `Paroxy.Proc.step` (Model/Process.lean): one
`ProgramParser` (module-level `pseudo_hash`, one SQLite connection) and one `Taxonomy` (mutable
`literal_labels`, memo) shared by every program of the process — for ALL engines (regex features, SQL
queries, compiled taxonomy rows, taxa assembly are arbitrary functions), all programs and all
histories. `C03_collection` is about the C11 model of a collection.

Not modelled, only exercised: the SQLite engine itself, interpreter hash randomisation (the two-process
byte-identity run), garbage collection.
-/
import Paroxy.Proofs.Process
import Paroxy.Proofs.ProcCollect
import Paroxy.Proofs.Collect
import Paroxy.Props.C11
namespace Paroxy.Props.C03
open Paroxy Paroxy.DB Paroxy.Proc

variable {E : Engines} {lit0 : List (Name × List Name)}

/-- **C03 (invariant).** A fresh process is at a program boundary (no table `t`, no sub-table, memo
consistent with the taxonomy as loaded), and every `step` — whether it returns or the feature search
raises — ends at a program boundary again. -/
theorem C03_invariant :
    Inv E lit0 (init lit0) ∧ ∀ S p, Inv E lit0 S → Inv E lit0 (step E S p).1 :=
  ⟨inv_init E lit0, fun _ p h => (step_spec E h p).1⟩

/-- The labels and taxa of a program as a function of the program alone (and of the taxonomy as
loaded): the parser run from a fresh state, and the *pure* translation of its labels. -/
def specOut (E : Engines) (lit0 : List (Name × List Name)) (p : Program) :
    Except Exc (List Label × List Taxon) :=
  match (parseStep E (init lit0) p).2 with
  | .error e => .error e
  | .ok labels => .ok (labels, E.assemble (labels.map fun l => (l, pureTranslate E lit0 l.name)))

/-- **C03 (refinement).** From any boundary state, the output of `step` is the specification
`specOut`: no hash counter, SQL table, memo entry or aliased list of the state is visible in it. -/
theorem C03_output (S : State) (p : Program) (h : Inv E lit0 S) :
    (step E S p).2 = specOut E lit0 p :=
  (step_spec E h p).2.2

/-- **C03 (independent).** The labels, taxa and spans computed for a program in any reachable state
of the process are those computed by a fresh process. -/
theorem C03_independent (S : State) (p : Program) (h : Inv E lit0 S) :
    (step E S p).2 = (step E (init lit0) p).2 := by
  rw [C03_output S p h, C03_output (init lit0) p (inv_init E lit0)]

theorem run_inv (S : State) (ps : List Program) (h : Inv E lit0 S) : Inv E lit0 (run E S ps) := by
  induction ps generalizing S with
  | nil => exact h
  | cons p ps ih => exact ih _ ((C03_invariant (E := E) (lit0 := lit0)).2 S p h)

/-- **C03 (histories).** After ANY sequence of other programs (any order, any repeats, including
programs on which the feature search raised), a program gets the tags it gets when tagged alone. -/
theorem C03_history (ps : List Program) (p : Program) :
    (step E (run E (init lit0) ps) p).2 = (step E (init lit0) p).2 :=
  C03_independent _ p (run_inv _ ps (inv_init E lit0))

/-- **C03 (hash counter).** After a parsed, non-empty program the `pseudo_hash` state is the one
obtained by hashing that program's expressions from a reset counter — whatever it was before. -/
theorem C03_hash_state (S : State) (p : Program) (reprs : List Name) (h : Inv E lit0 S)
    (hp : p.parsed = .tree reprs) :
    (step E S p).1.hash = (HashState.reset.callAll reprs).1 := by
  rw [(step_spec E h p).2.1, (parseStep_spec E h.1 h.1 p).2.2.2 reprs hp]

/-! ### The hash reset is a real obligation -/

def exEngines : Engines :=
  { queries := [], derive := fun _ _ _ => [], looksLikeTaxon := fun _ => false,
    compiled := fun _ => [], assemble := fun _ => [] }

/-- a program with one expression `2` -/
def progQ : Program := { parsed := .tree [[50]], lines := 1, regexLabels := fun _ => .ok [] }

/-- a program with one expression `1`, and a feature whose label shows the identifier the expression
got (as the regex features matching `_hash=` lines of the flat AST can) -/
def progP : Program :=
  { parsed := .tree [[49]], lines := 1, regexLabels := fun vs => .ok [{ name := vs, spans := [] }] }

/-- **Without `pseudo_hash.reset()` the property fails.** If `flatten_ast` did not reset the counter
(`resets = false`: expressions hashed from the counter and cache left by the previous program), the
tags of `progP` after `progQ` would differ from its tags in a fresh process (identifier 2 instead of 1).
So `C03_independent` / `C03_history` — proved for the code as written, `resets = true` — do depend on
the line flatten_ast.py:369: removing it falsifies them. -/
theorem C03_no_reset_breaks :
    (stepG exEngines false (stepG exEngines false (init []) progQ).1 progP).2 ≠
      (stepG exEngines false (init []) progP).2 ∧
    (stepG exEngines true (stepG exEngines true (init []) progQ).1 progP).2 =
      (stepG exEngines true (init []) progP).2 := by
  decide

/-- **Why the invariant matters.** In a state where the table `t` was left behind (what a leak between
programs would be), every later parsed program fails with `OperationalError` ("table t already
exists"): the boundary invariant is exactly what makes the outputs state-independent. -/
theorem C03_leak_breaks (S : State) (p : Program) (reprs : List Name) (rows labels0 : List Label)
    (ht : S.sql.t = some rows) (hp : p.parsed = .tree reprs)
    (hr : p.regexLabels (HashState.reset.callAll reprs).2 = .ok labels0) :
    (step E S p).2 = .error operationalError := by
  unfold step stepG parseStepG
  simp only [hp, if_true, hr, SqlState.create, ht]

/-- **C03 (collection).** In a collection, the record of a program is a function of the program itself
(path, stored source, the labels its own text gets — `C03_history`) and of *which of the module names
its import labels mention are collected* (as paths: `M` ↦ `M` with `/` for `.`, plus `.py`): two
collections that agree on that give it the same record. -/
theorem C03_collection {toTaxa : Name → List Label → List Taxon} {progs progs' : List Prog} {db db' : Db}
    (h : makeDb toTaxa progs = .ok db) (h' : makeDb toTaxa progs' = .ok db')
    (hn : (pathsOf progs).Nodup) (hn' : (pathsOf progs').Nodup) {p : Prog} (hp : p ∈ progs)
    (hp' : p ∈ progs')
    (hsame : ∀ l ∈ p.labels, ∀ m, searchImport? l.name = some m →
      (replaceChar cDot cSlash m ++ sPy ∈ internalOf progs ↔
        replaceChar cDot cSlash m ++ sPy ∈ internalOf progs')) :
    get? db.programs p.path = get? db'.programs p.path := by
  rw [get?_programs h hn hp, get?_programs h' hn' hp']
  unfold recordOf
  rw [labelsOf_congr hsame]

/-- Non-vacuity of `C03_collection`: the two-program cycle `a.py ⇄ b.py`, and the same collection with a
third program `c.py`; `a.py` names the same collected modules in both, so it has the same record. -/
example : ∃ db db', makeDb (fun _ _ => []) C11.cycleProgs = .ok db ∧
    makeDb (fun _ _ => [])
      (C11.cycleProgs ++ [{ path := C11.exC, timestamp := [], source := [], labels := [] }]) = .ok db' ∧
    get? db.programs C11.exA = get? db'.programs C11.exA := by
  obtain ⟨db, h⟩ := C11.C11_total (toTaxa := fun _ _ => []) (progs := C11.cycleProgs)
  obtain ⟨db', h'⟩ := C11.C11_total (toTaxa := fun _ _ => [])
    (progs := C11.cycleProgs ++ [{ path := C11.exC, timestamp := [], source := [], labels := [] }])
  refine ⟨db, db', h, h', ?_⟩
  have := C03_collection h h' (by decide) (by decide) (p := C11.cycleProgs.head!) (by decide) (by decide)
    (by
      intro l hl m hs
      have hb : ∀ l ∈ C11.cycleProgs.head!.labels, searchImport? l.name = some [98] := by decide
      rw [hb l hl] at hs
      cases hs
      decide)
  exact this

/-! ### The collection, with the process state threaded -/

/-- **C03 (in a collection = alone).** `collectProc` threads ONE parser state over the sorted programs
(`parseSeq`), relabels, threads ONE taxonomy state over the relabelled labels (`taxaSeq`) and assembles
the database. For a program that names no collected module other than itself, the record it gets inside
the collection is the record it gets when collected alone — whatever programs come before and after it.
The labels of a program are not an input here: they are what the shared parser returns when its turn
comes (`collectProc_eq` reduces the threaded run to `makeDb` on the labels each program gets alone). -/
theorem C03_record_alone {items : List Item} {it : Item} {db db1 : Db}
    (hn : (items.map (·.path)).Nodup) (hit : it ∈ items)
    (h : collectProc E lit0 items = .ok db) (h1 : collectProc E lit0 [it] = .ok db1)
    (hno : ∀ l ∈ labelsAlone E lit0 it, ∀ m, searchImport? l.name = some m →
      replaceChar cDot cSlash m ++ sPy ∈ items.map (·.path) →
        replaceChar cDot cSlash m ++ sPy = it.path) :
    get? db.programs it.path = get? db1.programs it.path := by
  refine C03_collection (collectProc_eq hn h) (collectProc_eq (items := [it]) (by simp) h1)
    (by rw [pathsOf_progAlone]; exact hn) (by simp [pathsOf]) (p := progAlone E lit0 it)
    (List.mem_map.mpr ⟨it, hit, rfl⟩) (by simp) fun l hl m hs => ?_
  have hall : (items.map (progAlone E lit0)).map (·.path) = items.map (·.path) := pathsOf_progAlone items
  have hone : ∀ x, x ∈ ([it].map (progAlone E lit0)).map (·.path) ↔ x = it.path := by simp [progAlone]
  rw [internalOf, internalOf, Collect.mem_internalPaths, Collect.mem_internalPaths, hall, hone]
  exact or_congr_left ⟨hno l hl m hs, fun hm => hm ▸ List.mem_map.mpr ⟨it, hit, rfl⟩⟩

/-- The invariant is not empty talk: a state with a leftover table does not satisfy it (cf. `C03_leak_breaks`). -/
example : ¬ Inv E lit0 { init lit0 with sql := { t := some [], physical := [], known := [] } } := by
  intro h; cases h.1.1

end Paroxy.Props.C03
