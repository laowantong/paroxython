/-
C04 — include / exclude / impart / hide implement the documented set algebra.

Theorems about the model `Filter.updateFilter` (Model/Filter.lean), for EVERY database satisfying
`Ctx.WF`, every regex oracle, every criteria list and every filter state. `Meets`/`MeetsExcl`
(Spec/Filter.lean) are the property's wording.
-/
import Paroxy.Proofs.Filter
import Paroxy.Proofs.Imported
import Paroxy.Proofs.Prefixes
namespace Paroxy.Props.C04
open Paroxy Paroxy.Filter

variable (c : Ctx) (r : Relations)

/-- `include [c1 … cn]` keeps exactly the selected programs that meet at least one criterion;
nothing else changes. -/
theorem C04_include (wf : c.WF) (st st' : State) (cs : List Criterion)
    (h : updateFilter c r st cs .include false = .ok st') :
    (∀ p, p ∈ st'.selected ↔ p ∈ st.selected ∧ ∃ crit ∈ cs, Meets c r crit p) ∧
      st'.knowledge = st.knowledge ∧ st'.hiddenTaxa = st.hiddenTaxa ∧
      st'.hiddenPrograms = st.hiddenPrograms :=
  include_any_spec c wf r st st' cs h

/-- `include all [c1 … cn]` (n ≥ 1) keeps exactly the selected programs that meet every criterion. -/
theorem C04_include_all (wf : c.WF) (st st' : State) (cs : List Criterion) (hne : cs ≠ [])
    (h : updateFilter c r st cs .include true = .ok st') :
    (∀ p, p ∈ st'.selected ↔ p ∈ st.selected ∧ ∀ crit ∈ cs, Meets c r crit p) ∧
      st'.knowledge = st.knowledge ∧ st'.hiddenTaxa = st.hiddenTaxa ∧
      st'.hiddenPrograms = st.hiddenPrograms :=
  include_all_spec c wf r st st' cs hne h

/-- `exclude [c1 … cn]` removes exactly the programs that meet at least one criterion (a taxon
pattern being also met by the importers of the programs featuring it) together with every program
importing one of them. -/
theorem C04_exclude (wf : c.WF) (st st' : State) (cs : List Criterion)
    (h : updateFilter c r st cs .exclude false = .ok st') :
    (∀ p, p ∈ st'.selected ↔ p ∈ st.selected ∧
        ¬ ∃ q, (∃ crit ∈ cs, MeetsExcl c r crit q) ∧ (q = p ∨ Imports c p q)) ∧
      st'.knowledge = st.knowledge ∧ st'.hiddenTaxa = st.hiddenTaxa ∧
      st'.hiddenPrograms = st.hiddenPrograms :=
  exclude_any_spec c wf r st st' cs h

/-- `exclude all [c1 … cn]` (n ≥ 1): the same with "meets every criterion". -/
theorem C04_exclude_all (wf : c.WF) (st st' : State) (cs : List Criterion) (hne : cs ≠ [])
    (h : updateFilter c r st cs .exclude true = .ok st') :
    (∀ p, p ∈ st'.selected ↔ p ∈ st.selected ∧
        ¬ ∃ q, (∀ crit ∈ cs, MeetsExcl c r crit q) ∧ (q = p ∨ Imports c p q)) ∧
      st'.knowledge = st.knowledge ∧ st'.hiddenTaxa = st.hiddenTaxa ∧
      st'.hiddenPrograms = st.hiddenPrograms :=
  exclude_all_spec c wf r st st' cs hne h

/-- `include`/`exclude` raise (ValueError) exactly when some triple's predicate string is
rejected by `normalize_predicate`; `impart` and `hide` never raise. -/
theorem C04_error (wf : c.WF) (st : State) (cs : List Criterion) (op : Operation) (q : Bool) :
    (∃ e, updateFilter c r st cs op q = .error e) ↔
      (op = .include ∨ op = .exclude) ∧
        ∃ p1 raw p2 e, Criterion.triple p1 raw p2 ∈ cs ∧ r.predicate raw = .error e := by
  -- the criteria are evaluated one by one, and only a triple can fail
  have core : ∀ follow, (∃ e, mapE (criterionPrograms c r follow) cs = .error e) ↔
      ∃ p1 raw p2 e, Criterion.triple p1 raw p2 ∈ cs ∧ r.predicate raw = .error e := by
    intro follow
    rw [mapE_error_iff]
    constructor
    · rintro ⟨crit, hc, he⟩
      obtain ⟨p1, raw, p2, e, rfl, hp⟩ := (criterionPrograms_error c wf r follow crit).mp he
      exact ⟨p1, raw, p2, e, hc, hp⟩
    · rintro ⟨p1, raw, p2, e, hc, hp⟩
      exact ⟨_, hc, (criterionPrograms_error c wf r follow _).mpr ⟨p1, raw, p2, e, rfl, hp⟩⟩
  rcases op with _ | _ | _ | _
  · exact (exists_congr fun e => bind_pure_error _ _ e).trans ((core false).trans (and_iff_right (Or.inl rfl)).symm)
  · exact (exists_congr fun e => bind_pure_error _ _ e).trans ((core true).trans (and_iff_right (Or.inr rfl)).symm)
  · exact ⟨fun ⟨_, h⟩ => (nomatch h), fun ⟨h, _⟩ => h.elim nofun nofun⟩
  · exact ⟨fun ⟨_, h⟩ => (nomatch h), fun ⟨h, _⟩ => h.elim nofun nofun⟩

/-- `impart` deselects exactly the programs matched by a `.py` pattern (NOT their importers) and
adds to the imparted knowledge the matched taxa, or every taxon directly featured by a matched
program, with all their ancestors (`/`-prefixes). -/
theorem C04_impart (st st' : State) (pats : List Codes) (qa : Bool)
    (h : updateFilter c r st (pats.map .pattern) .impart qa = .ok st') :
    (∀ p, p ∈ st'.selected ↔ p ∈ st.selected ∧
        ¬ ∃ pat ∈ pats, endsWithPy pat = true ∧ IsProgram c p ∧ c.orc.matchProg pat p = true) ∧
    (∀ t, t ∈ st'.knowledge ↔ t ∈ st.knowledge ∨ ∃ pat ∈ pats, ∃ u, t ∈ prefixes u ∧
        (if endsWithPy pat then
          ∃ p, IsProgram c p ∧ c.orc.matchProg pat p = true ∧ FeaturesRec c p u
         else u ∈ c.taxa.map (·.1) ∧ c.orc.matchTaxon pat u = true)) ∧
      st'.hiddenTaxa = st.hiddenTaxa ∧ st'.hiddenPrograms = st.hiddenPrograms := by
  simp only [updateFilter, filterMap_pattern] at h
  cases h
  refine ⟨fun p => ?_, fun t => ?_, rfl, rfl⟩
  · simp only [excludePrograms, Bool.false_eq_true, if_false, List.mem_filter, Bool.not_eq_true',
      contains_false_iff, List.mem_flatMap, mem_programsOfPattern, and_assoc]
  · have taxa : ∀ pat u, u ∈ (if endsWithPy pat then taxaOfPrograms c (programsOfPattern c pat) false
          else taxaOfPattern c pat) ↔
        if endsWithPy pat then ∃ p, IsProgram c p ∧ c.orc.matchProg pat p = true ∧ FeaturesRec c p u
        else u ∈ c.taxa.map (·.1) ∧ c.orc.matchTaxon pat u = true := by
      intro pat u
      split
      · simp only [mem_taxaOfPrograms, mem_programsOfPattern, and_assoc]
      · exact mem_taxaOfPattern c pat u
    simp only [excludePrograms, List.mem_append, List.mem_flatMap, taxa]
    refine or_congr_right ⟨?_, ?_⟩
    · rintro ⟨u, ⟨pat, hp, hu⟩, ht⟩; exact ⟨pat, hp, u, ht, hu⟩
    · rintro ⟨pat, hp, u, ht, hu⟩; exact ⟨u, ⟨pat, hp, hu⟩, ht⟩

/-- "With all their ancestors", made independent of the code's `split`/`join`: `t ∈ prefixes u` (the
set `impart` adds for a matched taxon `u`, see `C04_impart`) iff `t` is `u` itself or `t/` is a string
prefix of `u` — the taxon and its ancestors in the taxonomy tree, nothing else. -/
theorem C04_ancestors (t u : Codes) : t ∈ prefixes u ↔ t = u ∨ (t ++ [47]) <+: u :=
  mem_prefixes t u

-- Here and below: evaluating `codesOf` on a literal decodes its UTF-8 bytes, which is slow in the kernel;
-- `codesOf_ofList` reads the characters off the literal instead.
example : prefixes (codesOf "a/b/c") = [codesOf "a", codesOf "a/b", codesOf "a/b/c"] := by
  rw [codesOf_ofList, codesOf_ofList, codesOf_ofList]
  decide +kernel

/-- `hide` only accumulates programs / taxa to omit from the report. -/
theorem C04_hide (st st' : State) (pats : List Codes) (qa : Bool)
    (h : updateFilter c r st (pats.map .pattern) .hide qa = .ok st') :
    st'.selected = st.selected ∧ st'.knowledge = st.knowledge ∧
    (∀ p, p ∈ st'.hiddenPrograms ↔ p ∈ st.hiddenPrograms ∨
        ∃ pat ∈ pats, endsWithPy pat = true ∧ IsProgram c p ∧ c.orc.matchProg pat p = true) ∧
    (∀ t, t ∈ st'.hiddenTaxa ↔ t ∈ st.hiddenTaxa ∨
        ∃ pat ∈ pats, endsWithPy pat = false ∧ t ∈ c.taxa.map (·.1) ∧ c.orc.matchTaxon pat t = true) := by
  simp only [updateFilter, filterMap_pattern] at h
  cases h
  refine ⟨rfl, rfl, fun p => ?_, fun t => ?_⟩
  · simp only [List.mem_append, List.mem_flatMap, List.mem_filter, mem_programsOfPattern, and_assoc]
  · simp only [List.mem_append, List.mem_flatMap, List.mem_filter, mem_taxaOfPattern, Bool.not_eq_true',
      and_assoc]

/-- The operation strings of the manual: `X`, `X any`, `X all` for the four operations. -/
theorem C04_parse :
    parseOperation (codesOf "include") = some (.include, false) ∧
    parseOperation (codesOf "include any") = some (.include, false) ∧
    parseOperation (codesOf "include all") = some (.include, true) ∧
    parseOperation (codesOf "exclude") = some (.exclude, false) ∧
    parseOperation (codesOf "exclude any") = some (.exclude, false) ∧
    parseOperation (codesOf "exclude all") = some (.exclude, true) ∧
    parseOperation (codesOf "impart") = some (.impart, false) ∧
    parseOperation (codesOf "hide") = some (.hide, false) ∧
    parseOperation (codesOf "exclude all all") = some (.exclude, false) ∧
    parseOperation (codesOf "delete") = none := by
  repeat rw [codesOf_ofList]
  decide +kernel

/-- The hypothesis `Ctx.WF` of the theorems above is not an extra assumption on the filter: on a
tag database that is well-formed as stored (`DB.WF`, what `make_db` writes), `add_imported_taxa`
succeeds (no `KeyError`), keeps the programs and their order, and the filter context it builds
satisfies `Ctx.WF` — for every regex oracle. -/
theorem C04_ctx_wf_of_db_wf (db : DB) (wf : db.WF) (orc : Oracle) :
    ∃ progs, addImported db = some progs ∧ progs.map (·.1) = db.programs.map (·.1) ∧
      Ctx.WF { orc := orc, programs := progs, taxa := db.taxa, exportations := db.exportations } :=
  let ⟨progs, h1, h2, h3, _⟩ := addImported_spec db wf orc
  ⟨progs, h1, h2, h3⟩

-- Non-vacuity: `exampleDB` (Proofs/Imported.lean) has two programs, `b.py` importing `a.py`; it
-- satisfies `DB.WF` (`exampleDB_wf`), `add_imported_taxa` copies `x` (not `meta/m`) under `b.py`,
-- and the resulting context is well-formed.
example : addImported exampleDB = some
    [([97, 46, 112, 121], [([120], [(1, 1)]), ([109, 101, 116, 97, 47, 109], [(2, 2)])]),
     ([98, 46, 112, 121], [([121], [(1, 3), (5, 5)]), ([120], [])])] := rfl
example (orc : Oracle) : Ctx.WF {
    orc := orc
    programs := [([97, 46, 112, 121], [([120], [(1, 1)]), ([109, 101, 116, 97, 47, 109], [(2, 2)])]),
                 ([98, 46, 112, 121], [([121], [(1, 3), (5, 5)]), ([120], [])])]
    taxa := exampleDB.taxa
    exportations := exampleDB.exportations } := by
  obtain ⟨progs, h, _, wf⟩ := C04_ctx_wf_of_db_wf exampleDB exampleDB_wf orc
  cases h
  exact wf

end Paroxy.Props.C04
