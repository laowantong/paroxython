/-
C11 — The tag database is a faithful, self-consistent record of the collection.

Property theorems only, about the model `Paroxy.DB.makeDb` (Model/MakeDb.lean) of
`TagDatabase.__init__` + the data of `get_json` + the rows of `write_sqlite`, for ALL collections:
any number of programs, any labels and spans, any taxonomy (`toTaxa` is an arbitrary function), any
import graph (cycles, self-imports, dangling targets).

`Imports progs p q` : an `import_internally:…` label of `p` (after the relabelling loop of
`labelled_programs`) names the path `q`.

The JSON TEXT of `get_json` (`json.dumps(data, indent=2)` + the span-compaction `regex.sub`) is modelled in
Model/JsonText.lean; the last two sections of this file: the compaction never touches a string literal, deletes
white space only and preserves the parsed value of every text; the text lexes to the tokens of the data and parses
back to the data (`C11_json_roundtrip`, `C11_db_json_roundtrip`).

Not proved here, only exercised by the harness: `sqlite3`, and the agreement of the models with the Python
(correspondence; for the text layer BYTE FOR BYTE against the real `get_json`).
-/
import Paroxy.Proofs.Collect
import Paroxy.Spec.Filter
import Paroxy.Proofs.Imported
import Paroxy.Proofs.JsonText
import Paroxy.Proofs.JsonDb
namespace Paroxy.Props.C11
open Paroxy Paroxy.DB

variable {toTaxa : Name → List Label → List Taxon} {progs : List Prog} {db : Db}

/-- **C11 (importations).** `importations` has exactly the program paths as keys, and
`importations[p]` is THE sorted, duplicate-free list of `{q | p imports⁺ q}` (transitive closure
`Relation.TransGen` of the direct-importation relation) — for every import graph, cycles and
self-imports included. -/
theorem C11_importations (h : makeDb toTaxa progs = .ok db) :
    keys db.importations = pathsOf progs ∧
    ∀ p ∈ pathsOf progs, ∃ l, get? db.importations p = some l ∧ StrictSorted l ∧
      (∀ q, q ∈ l ↔ Relation.TransGen (Imports progs) p q) ∧
      (∀ l', StrictSorted l' → (∀ q, q ∈ l' ↔ Relation.TransGen (Imports progs) p q) → l' = l) := by
  obtain ⟨himp, -, -, -, -⟩ := makeDb_ok h
  rw [himp]
  refine ⟨by rw [keys_completeImportations, keys_directD], ?_⟩
  intro p hp
  obtain ⟨hg, hs, hmem⟩ := closure_spec (directD progs) (p := p) (by rw [keys_directD]; exact hp)
  exact ⟨_, hg, hs, hmem, fun l' hs' hl' => strictSorted_ext hs' hs fun q => by rw [hl', hmem]; rfl⟩

/-- **C11 (no dangling importation).** Everything listed in `importations` is a collected program. -/
theorem C11_importations_internal (h : makeDb toTaxa progs = .ok db) :
    ∀ p q, InAt db.importations p q → q ∈ pathsOf progs := by
  obtain ⟨himp, hexp, -, -, -⟩ := makeDb_ok h
  obtain ⟨-, hin, -, -⟩ := exportations_spec hexp
  rintro p q ⟨l, hl, hq⟩
  rw [himp] at hl
  exact hin (p, l) (get?_mem hl) q hq

/-- **C11 (exportations).** `exportations` has the program paths as keys, is the exact inverse of
`importations`, and every list is sorted without duplicates. -/
theorem C11_exportations (h : makeDb toTaxa progs = .ok db) (hn : (pathsOf progs).Nodup) :
    keys db.exportations = pathsOf progs ∧
    (∀ p q, InAt db.exportations p q ↔ InAt db.importations q p) ∧
    (∀ e ∈ db.exportations, StrictSorted e.2) := by
  obtain ⟨himp, hexp, -, -, -⟩ := makeDb_ok h
  obtain ⟨hk, -, hmem, hs⟩ := exportations_spec hexp
  refine ⟨hk, ?_, hs⟩
  intro p q
  rw [hmem, himp]
  have hnk : (keys (completeImportations (directD progs))).Nodup := by
    rw [keys_completeImportations, keys_directD]; exact hn
  constructor
  · rintro ⟨e, he, hq, hp⟩
    exact ⟨e.2, by rw [← hq]; exact get?_of_mem_nodup hnk he, hp⟩
  · rintro ⟨l, hl, hp⟩
    exact ⟨(q, l), get?_mem hl, rfl, hp⟩

/-- **C11 (program records).** One record per program, in collection order; timestamp and source
are stored verbatim; the stored labels (taxa) are those computed — the relabelled labels of the
program (the taxonomy's answer on them). A label name is stored once, with the sorted list of the
distinct spans of ALL the entries the parser returned under that name (`spansNamed`: a hinted label may
bear the name of a label an SQL query also derives — fix F47), projected on (start, end). -/
theorem C11_records (h : makeDb toTaxa progs = .ok db) (hn : (pathsOf progs).Nodup) :
    db.programs = progs.map (fun p => (p.path, recordOf toTaxa (internalOf progs) p)) ∧
    ∀ p ∈ progs, ∃ r, get? db.programs p.path = some r ∧
      r.timestamp = p.timestamp ∧ r.source = p.source ∧
      (∀ e ∈ r.labels, e.1 ∈ (labelsOf (internalOf progs) p).map (·.name) ∧
        e.2 = preparedSpans (spansNamed (labelsOf (internalOf progs) p) e.1)) ∧
      (∀ k, k ∈ keys r.labels ↔ k ∈ (labelsOf (internalOf progs) p).map (·.name)) ∧
      (∀ e ∈ r.taxa, ∃ t ∈ toTaxa p.path (labelsOf (internalOf progs) p),
        t.name = e.1 ∧ e.2 = preparedSpans t.spans) ∧
      (∀ k, k ∈ keys r.taxa ↔ k ∈ (toTaxa p.path (labelsOf (internalOf progs) p)).map (·.name)) := by
  obtain ⟨-, -, -, -, hprog⟩ := makeDb_ok h
  rw [programs_eq progs hn] at hprog
  refine ⟨hprog, ?_⟩
  intro p hp
  refine ⟨recordOf toTaxa (internalOf progs) p, get?_programs h hn hp, rfl, rfl, ?_, ?_, ?_, ?_⟩
  · exact (preparedLabels_props _).1
  · exact (preparedLabels_props _).2.1
  · exact (preparedTaxa_props _).1
  · exact (preparedTaxa_props _).2.1

/-- **C11 (record lookup).** Every label the parser returned is found under its name, with exactly the
sorted distinct spans of all the entries of that name — no hypothesis on the names (full strength since
fix F47). For taxa (distinct names by construction of `to_taxa`) each taxon is found under its name
with its own sorted spans. -/
theorem C11_record_lookup (h : makeDb toTaxa progs = .ok db) (hn : (pathsOf progs).Nodup)
    {p : Prog} (hp : p ∈ progs) :
    ∃ r, get? db.programs p.path = some r ∧
      (∀ l ∈ labelsOf (internalOf progs) p,
        get? r.labels l.name = some (preparedSpans (spansNamed (labelsOf (internalOf progs) p) l.name))) ∧
      (((toTaxa p.path (labelsOf (internalOf progs) p)).map (·.name)).Nodup →
        ∀ t ∈ toTaxa p.path (labelsOf (internalOf progs) p),
          get? r.taxa t.name = some (preparedSpans t.spans)) :=
  ⟨recordOf toTaxa (internalOf progs) p, get?_programs h hn hp, fun _ hl => get?_preparedLabels _ hl,
    fun hnn _ ht => get?_preparedTaxa hnn ht⟩

/-- **C11 (no occurrence is lost).** Every span of every entry of the parser's result — computed or
added by a hint — appears (as its (start, end)) in the list stored under the entry's name, and nothing
else does. -/
theorem C11_labels_complete (h : makeDb toTaxa progs = .ok db) (hn : (pathsOf progs).Nodup)
    {p : Prog} (hp : p ∈ progs) :
    ∃ r, get? db.programs p.path = some r ∧
      ∀ k s, (∃ sp, get? r.labels k = some sp ∧ s ∈ sp) ↔
        ∃ l ∈ labelsOf (internalOf progs) p, l.name = k ∧ ∃ t ∈ l.spans, Span3.poor t = s := by
  refine ⟨recordOf toTaxa (internalOf progs) p, get?_programs h hn hp, fun k s => ?_⟩
  -- a span is stored under `k` iff it is the projection of a span of `spansNamed … k`
  have hsn : ∀ t, t ∈ spansNamed (labelsOf (internalOf progs) p) k ↔
      ∃ l ∈ labelsOf (internalOf progs) p, l.name = k ∧ t ∈ l.spans := fun t => by
    simp only [spansNamed, List.mem_flatMap, List.mem_filter, decide_eq_true_eq, and_assoc]
  constructor
  · rintro ⟨sp, hsp, hs⟩
    obtain ⟨l0, hl0, rfl⟩ := List.mem_map.mp (((preparedLabels_props _).2.1 k).mp (get?_isSome.mp ⟨sp, hsp⟩))
    have hsp' := Option.some.inj ((get?_preparedLabels _ hl0).symm.trans hsp)
    obtain ⟨t, ht, hts⟩ := mem_preparedSpans.mp (hsp' ▸ hs)
    obtain ⟨l, hl, hlk, htl⟩ := (hsn t).mp ht
    exact ⟨l, hl, hlk, t, htl, hts⟩
  · rintro ⟨l, hl, rfl, t, htl, hts⟩
    exact ⟨_, get?_preparedLabels _ hl, mem_preparedSpans.mpr ⟨t, (hsn t).mpr ⟨l, hl, rfl, htl⟩, hts⟩⟩

/-- **C11 (sorted spans).** Every span list stored in a program record is sorted (non-decreasing for
Python's order on pairs) and consists of the (start, end) of computed spans. -/
theorem C11_spans_sorted (h : makeDb toTaxa progs = .ok db) (hn : (pathsOf progs).Nodup) :
    ∀ e ∈ db.programs, (∀ l ∈ e.2.labels, Sorted l.2) ∧ (∀ t ∈ e.2.taxa, Sorted t.2) := by
  obtain ⟨hprog, -⟩ := C11_records h hn
  intro e he
  rw [hprog] at he
  obtain ⟨p, -, rfl⟩ := List.mem_map.mp he
  constructor
  · intro l hl
    obtain ⟨-, hv⟩ := (preparedLabels_props _).1 l hl
    rw [hv]; exact sorted_preparedSpans _
  · intro t ht
    obtain ⟨t', -, -, hv⟩ := (preparedTaxa_props _).1 t ht
    rw [hv]; exact sorted_preparedSpans _

/-- **C11 (inverted indexes).** `labels` and `taxa` have strictly sorted keys; `labels[l]` is exactly
the list of the paths of the programs featuring `l`, in collection order, EACH PATH ONCE (fix F47: the
parser may return several entries of one name for a program; `dedupAdj` drops the repeats, and the list
is duplicate-free), and is absent when no program features `l`; consequently
`p ∈ labels[l] ↔ l is a key of p's record`. Same for `taxa`. -/
theorem C11_indexes (h : makeDb toTaxa progs = .ok db) (hn : (pathsOf progs).Nodup) :
    StrictSorted (keys db.labels) ∧ StrictSorted (keys db.taxa) ∧
    (∀ l, get? db.labels l =
      if occOf (labelOcc (labelled progs)) l = [] then none
      else some (dedupAdj (occOf (labelOcc (labelled progs)) l))) ∧
    (∀ l ps, get? db.labels l = some ps → ps.Nodup) ∧
    (∀ t, get? db.taxa t =
      if occOf (taxonOcc (taxaed toTaxa progs)) t = [] then none
      else some (occOf (taxonOcc (taxaed toTaxa progs)) t)) ∧
    (∀ l p, InAt db.labels l p ↔ ∃ r, get? db.programs p = some r ∧ l ∈ keys r.labels) ∧
    (∀ t p, InAt db.taxa t p ↔ ∃ r, get? db.programs p = some r ∧ t ∈ keys r.taxa) := by
  obtain ⟨-, -, hlab, htax, -⟩ := makeDb_ok h
  have hrec := @get?_programs_iff _ _ _ h hn
  -- the same for labels and taxa: `items q` are the entries of program `q`, `fld` the field of its record built from them
  have key : ∀ {α : Type} (items : Prog → List α) (name : α → Name) (fld : Record → List (Name × List PoorSpan)),
      (∀ q k, k ∈ keys (fld (recordOf toTaxa (internalOf progs) q)) ↔ k ∈ (items q).map name) → ∀ k p,
      (∃ e ∈ progs.map (fun q => (q.path, items q)), e.1 = p ∧ k ∈ e.2.map name) ↔
        ∃ r, get? db.programs p = some r ∧ k ∈ keys (fld r) := by
    intro α items name fld hk k p
    constructor
    · rintro ⟨e, he, hp, hl⟩
      obtain ⟨q, hq, rfl⟩ := List.mem_map.mp he
      exact ⟨_, hrec.mpr ⟨q, hq, hp, rfl⟩, (hk q k).mpr hl⟩
    · rintro ⟨r, hr, hl⟩
      obtain ⟨q, hq, hp, rfl⟩ := hrec.mp hr
      exact ⟨_, List.mem_map.mpr ⟨q, hq, rfl⟩, hp, (hk q k).mp hl⟩
  refine ⟨?_, ?_, ?_, ?_, ?_, ?_, ?_⟩
  · rw [hlab]; exact (sortKeys_props _ (nodup_keys_collectNew _)).1
  · rw [htax]; exact (sortKeys_props _ (nodup_keys_collect _)).1
  · intro l; rw [hlab]; exact indexNew_get? _ l
  · intro l ps hps
    rw [hlab, indexNew_get?] at hps
    split at hps
    · cases hps
    · simp only [Option.some.injEq] at hps
      rw [← hps]
      exact nodup_foldl_addNew_labelOcc _ l [] (by rw [keys_labelled]; exact hn) (by simp) (by simp)
  · intro t; rw [htax]; exact index_get? _ t
  · intro l p
    rw [hlab, indexNew_inAt, mem_labelOcc]
    exact key _ _ (·.labels) (fun q k => (preparedLabels_props _).2.1 k) l p
  · intro t p
    rw [htax, index_inAt, mem_taxonOcc]
    exact key _ _ (·.taxa) (fun q k => (preparedTaxa_props _).2.1 k) t p

/-- Every database the model builds is well-formed (`DB.WF`): exactly what the filter
properties C04–C07/C17 assume of a tag database. -/
theorem makeDb_wf (h : makeDb toTaxa progs = .ok db) (hn : (pathsOf progs).Nodup) : WF db := by
  obtain ⟨himpk, himp⟩ := C11_importations h
  obtain ⟨hexpk, hexpinv, hexps⟩ := C11_exportations h hn
  obtain ⟨hprog, -⟩ := C11_records h hn
  obtain ⟨-, -, -, -, -, hli, hti⟩ := C11_indexes h hn
  have hkeys : keys db.programs = pathsOf progs := by
    rw [hprog]; simp [keys, pathsOf, List.map_map, Function.comp_def]
  obtain ⟨himpeq, -, -, -, -⟩ := makeDb_ok h
  refine ⟨by rw [hkeys]; exact hn, hli, hti, by rw [himpk, hkeys], by rw [hexpk, hkeys], ?_, hexps,
    ?_, ?_, hexpinv⟩
  · intro e he
    rw [himpeq] at he
    exact mem_completeImportations_sorted e he
  · intro p q hpq
    rw [hkeys]; exact C11_importations_internal h p q hpq
  · intro p q r hpq hqr
    rw [himpeq] at hpq hqr ⊢
    rw [inAt_completeImportations] at hpq hqr ⊢
    exact ⟨hpq.1, Reach.trans hpq.2 hqr.2⟩

/-- **C11 (collecting always returns).** For EVERY collection — any labels (hint-introduced
`import_internally:…` labels included), any file and directory names, any import graph — the model
(like `TagDatabase.__init__`) returns a database: the closure is a total function and, since fix
0c1b93c, `compute_and_collect_exportations` only meets collected paths (no `KeyError`). -/
theorem C11_total : ∃ db, makeDb toTaxa progs = .ok db := by
  have hx : ∀ e ∈ completeImportations (directD progs), ∀ x ∈ e.2, x ∈ pathsOf progs := by
    intro e he x hx
    simp only [completeImportations, List.mem_map] at he
    obtain ⟨f, -, rfl⟩ := he
    rw [mem_sortU, mem_closureOf] at hx
    obtain ⟨b, -, hb⟩ := reach_last hx
    exact resolved_all hb
  obtain ⟨exps, he⟩ := exportations_ok hx
  exact makeDb_isOk_of he

/-- **C11 (which imports count), from the RAW labels.** For a collection with distinct paths whose raw
labels are parser labels (none already of the form `import_internally:…` — only a hint can make one),
`p` directly imports `q` **iff** `q` is a collected path and some label of `p` is `import:M` or
`import:M:<name>` (`M` = the characters up to the next colon, non-empty) with `q = M'.py`, `M'` being `M`
with `/` for `.`. So: exactly the modules that `p`'s `import M` / `from M import …` statements name by
their absolute dotted path, when that path is a collected file. `import_module:M` labels, relative forms
(`from . import x`: empty `M`) and `from pkg import q` (names `pkg.py`, not `pkg/q.py`) never count.
This is stated with plain string equations: the model's `searchImport?`, `tweakFirstColon` and `internalTarget?`
do not occur in it. -/
theorem C11_direct (hn : (pathsOf progs).Nodup) (hraw : NoRawInternal progs) (p q : Name) :
    Imports progs p q ↔
      q ∈ pathsOf progs ∧ ∃ prog ∈ progs, prog.path = p ∧ ∃ l ∈ prog.labels, ∃ rest,
        l.name = sImport ++ cColon :: rest ∧ takeNoColon rest ≠ [] ∧
        q = replaceChar cDot cSlash (takeNoColon rest) ++ sPy := by
  constructor
  · intro hpq
    obtain ⟨prog, hprog, hpath, hd⟩ := imports_elim hpq
    obtain ⟨hq, l, hl, ht⟩ := mem_directOf.mp hd
    obtain ⟨l0, hl0, rfl⟩ := List.mem_map.mp hl
    obtain ⟨-, -, rest, h1, h2, h3⟩ := relabel_target (hraw prog hprog l0 hl0) ht
    exact ⟨hq, prog, hprog, hpath, l0, hl0, rest, h1, h2, h3⟩
  · rintro ⟨hq, prog, hprog, rfl, l, hl, rest, h1, h2, h3⟩
    refine imports_intro hn hprog (mem_directOf.mpr ⟨hq, _, List.mem_map.mpr ⟨l, hl, rfl⟩, ?_⟩)
    have hin : replaceChar cDot cSlash (takeNoColon rest) ++ sPy ∈ internalOf progs :=
      List.mem_append_left _ (h3 ▸ hq)
    simp only
    rw [h1, h3]
    exact internalTarget_of_import h2 hin

/-! ### SQLite rows -/

/-- `name.partition(":")`: the prefix has no colon, and the name is the prefix alone (no colon at
all, empty suffix) or prefix + ":" + suffix. -/
theorem partitionColon_spec (n : Name) :
    cColon ∉ (partitionColon n).1 ∧
    ((n = (partitionColon n).1 ∧ (partitionColon n).2 = []) ∨
      n = (partitionColon n).1 ++ cColon :: (partitionColon n).2) := by
  fun_induction partitionColon n with
  | case1 => exact ⟨nofun, .inl ⟨rfl, rfl⟩⟩
  | case2 cs => exact ⟨nofun, .inr rfl⟩
  | case3 c cs hc r ih =>
    refine ⟨fun h => ?_, ih.2.imp (fun h => ⟨congrArg (c :: ·) h.1, h.2⟩) (congrArg (c :: ·))⟩
    rcases List.mem_cons.mp h with e | h
    · exact hc e.symm
    · exact ih.1 h

/-- **C11 (SQLite rows) — row construction restated.** This theorem cannot fail for the model: `labelFacts`
/ `taxonFacts` are the same comprehension as `labelRows` / `taxonRows` with fewer columns, and the proofs
are `simp`/`rfl`. It only documents, in one place, what the rows built by `write_sqlite` are: one
`program` row per program record (same order, verbatim timestamp, numbered source), one `label` row per
(program, label, span) occurrence, one `taxon` row per (program, taxon, span) occurrence, the derived
columns being functions of those (span text, prefix/suffix partition). That the SQLite FILE holds these
rows (sqlite3 write and read back) is exercised by the harness only. -/
theorem C11_sqlite_rows (db : Db) :
    (programRows db).map (fun r => (r.program, r.timestamp)) =
      db.programs.map (fun e => (e.1, e.2.timestamp)) ∧
    (∀ r ∈ programRows db, ∃ e ∈ db.programs, r.program = e.1 ∧
      r.source = e.1 ++ [10, 10] ++ addLineNumbers e.2.source) ∧
    (labelRows db).map (fun r => (r.program, r.label, (r.start, r.stop))) = labelFacts db ∧
    (taxonRows db).map (fun r => (r.program, r.taxon, (r.start, r.stop))) = taxonFacts db ∧
    (∀ r ∈ labelRows db, r.span = spanText (r.start, r.stop) ∧
      (r.pre, r.suf) = partitionColon r.label) ∧
    (∀ r ∈ taxonRows db, r.span = spanText (r.start, r.stop)) := by
  refine ⟨?_, ?_, ?_, ?_, ?_, ?_⟩
  · simp [programRows, List.map_map, Function.comp_def]
  · intro r hr
    simp only [programRows, List.mem_map] at hr
    obtain ⟨e, he, rfl⟩ := hr
    exact ⟨e, he, rfl, rfl⟩
  · simp [labelRows, labelFacts, List.map_flatMap, List.map_map, Function.comp_def]
  · simp [taxonRows, taxonFacts, List.map_flatMap, List.map_map, Function.comp_def]
  · intro r hr
    simp only [labelRows, List.mem_flatMap, List.mem_map] at hr
    obtain ⟨e, -, l, -, s, -, rfl⟩ := hr
    exact ⟨rfl, rfl⟩
  · intro r hr
    simp only [taxonRows, List.mem_flatMap, List.mem_map] at hr
    obtain ⟨e, -, l, -, s, -, rfl⟩ := hr
    rfl

/-! ### Examples -/

def exA : Name := [97, 46, 112, 121]          -- "a.py"
def exB : Name := [98, 46, 112, 121]          -- "b.py"
def exC : Name := [99, 46, 112, 121]          -- "c.py"
def exAB : Name := [97, 46, 98, 46, 112, 121] -- "a.b.py"
def impA : Name := [105, 109, 112, 111, 114, 116, 58, 97]   -- "import:a"
def impB : Name := [105, 109, 112, 111, 114, 116, 58, 98]   -- "import:b"
def impAB : Name := [105, 109, 112, 111, 114, 116, 58, 97, 46, 98]  -- "import:a.b"
def intZ : Name := sInternalPrefix ++ [122]   -- "import_internally:z"

/-- The input of the repaired finding F26: `a.b.py` and `c.py` containing `import a.b`. The import is
no longer taken for an internal one (`a/b.py` is not collected), and a database is returned. -/
def dottedProgs : List Prog :=
  [{ path := exAB, timestamp := [], source := [], labels := [] },
   { path := exC, timestamp := [], source := [], labels := [{ name := impAB, spans := [(1, 1, [])] }] }]

theorem dotted_ok : directD dottedProgs = [(exAB, []), (exC, [])] ∧
    ∃ db, makeDb toTaxa dottedProgs = .ok db :=
  ⟨by decide, C11_total⟩

/-- The input of the repaired finding F29: a raw label `import_internally:z` (what the hint comment
`# paroxython: import_internally:z` produces) naming a program that is not collected is no longer an
importation, and a database is returned. -/
def hintProgs : List Prog :=
  [{ path := exA, timestamp := [], source := [], labels := [{ name := intZ, spans := [] }] }]

theorem hint_ok : directD hintProgs = [(exA, [])] ∧ ∃ db, makeDb toTaxa hintProgs = .ok db :=
  ⟨by decide, C11_total⟩

/-- Non-vacuity: a two-program import cycle (`a.py`: `import b`, `b.py`: `import a`). -/
def cycleProgs : List Prog :=
  [{ path := exA, timestamp := [], source := [], labels := [{ name := impB, spans := [(1, 1, [])] }] },
   { path := exB, timestamp := [], source := [], labels := [{ name := impA, spans := [(1, 1, [])] }] }]

theorem cycle_directD : directD cycleProgs = [(exA, [exB]), (exB, [exA])] := by decide

example : (pathsOf cycleProgs).Nodup ∧
    Relation.TransGen (Imports cycleProgs) exA exA := by
  have hab : Imports cycleProgs exA exB := by
    unfold Imports Direct; rw [cycle_directD]; decide
  have hba : Imports cycleProgs exB exA := by
    unfold Imports Direct; rw [cycle_directD]; decide
  exact ⟨by decide, Relation.TransGen.tail (Relation.TransGen.single hab) hba⟩

/-- Non-vacuity of `C11_direct`: the cycle satisfies its hypotheses, and the theorem recovers
`a.py imports b.py` from the raw label `import:b`. -/
example : NoRawInternal cycleProgs ∧ Imports cycleProgs exA exB :=
  ⟨by decide, (C11_direct (progs := cycleProgs) (by decide) (by decide) exA exB).mpr
    ⟨by decide, cycleProgs.head!, by decide, rfl, { name := impB, spans := [(1, 1, [])] }, by decide,
      [98], by decide, by decide, by decide⟩⟩

/-! ### Bridge to the filter properties (C04–C07) -/

/-- The tag database as the filter reads it: per program its `taxa` record, the `taxa` index, and
the importation / exportation dictionaries. Names are the same code-point lists. -/
def toFilterDB (db : Db) : Paroxy.Filter.DB :=
  { programs := db.programs.map fun e => (e.1, e.2.taxa)
    taxa := db.taxa
    importations := db.importations
    exportations := db.exportations }

theorem dictGet?_eq_get? {β : Type} (d : List (Name × β)) (k : Name) : dictGet? d k = get? d k := by
  induction d with
  | nil => rfl
  | cons e t ih =>
    obtain ⟨k', v⟩ := e
    simp only [dictGet?, get?, ih]

theorem mem_getD_iff {d : List (Name × List Name)} {k p : Name} :
    p ∈ (dictGet? d k).getD [] ↔ InAt d k p := by
  rw [dictGet?_eq_get?]
  unfold InAt
  cases get? d k with
  | none => simp
  | some l => simp

/-- The taxonomy oracle returns no taxon with an empty bag of spans (what `deduplicated_taxa`
guarantees: "if spans:  # if any item remains in the bag"). -/
def TaxaNonempty (toTaxa : Name → List Label → List Taxon) (progs : List Prog) : Prop :=
  ∀ p ∈ progs, ∀ t ∈ toTaxa p.path (labelsOf (internalOf progs) p), t.spans ≠ []

/-- Every database the model builds — from distinct paths and a taxonomy whose
taxa all have at least one span — satisfies `Paroxy.Filter.DB.WF`, the hypothesis under which
`add_imported_taxa` succeeds and the filter theorems C04–C07 hold (`C04_ctx_wf_of_db_wf`,
`addImported_spec`). The uniqueness of the taxon keys of a record needs no hypothesis: it is
established by `prepared_taxa` (dictionary assignment). -/
theorem makeDb_filter_wf (h : makeDb toTaxa progs = .ok db) (hn : (pathsOf progs).Nodup)
    (hne : TaxaNonempty toTaxa progs) : Paroxy.Filter.DB.WF (toFilterDB db) := by
  have wf := makeDb_wf h hn
  have hkeys : (toFilterDB db).programs.map (·.1) = keys db.programs := by
    simp [toFilterDB, keys, List.map_map, Function.comp_def]
  have hget : ∀ p rec, (p, rec) ∈ (toFilterDB db).programs ↔
      ∃ r, get? db.programs p = some r ∧ rec = r.taxa := by
    intro p rec
    constructor
    · intro hm
      simp only [toFilterDB, List.mem_map, Prod.mk.injEq] at hm
      obtain ⟨e, he, e1, e2⟩ := hm
      refine ⟨e.2, ?_, e2.symm⟩
      rw [← e1]
      exact get?_of_mem_nodup wf.paths_nodup he
    · rintro ⟨r, hr, rfl⟩
      simp only [toFilterDB, List.mem_map, Prod.mk.injEq]
      exact ⟨(p, r), get?_mem hr, rfl, rfl⟩
  have hrec : ∀ p rec, (p, rec) ∈ (toFilterDB db).programs →
      ∃ q ∈ progs, q.path = p ∧ rec = preparedTaxa (toTaxa q.path (labelsOf (internalOf progs) q)) := by
    intro p rec hm
    obtain ⟨r, hr, rfl⟩ := (hget p rec).mp hm
    obtain ⟨q, hq, e, rfl⟩ := (get?_programs_iff h hn).mp hr
    exact ⟨q, hq, e, rfl⟩
  have hexp : ∀ q p, (toFilterDB db).Exp q p ↔ InAt db.exportations p q := fun _ _ => mem_getD_iff
  refine ⟨by rw [hkeys]; exact wf.paths_nodup, ?_, ?_, ?_, ?_, ?_, ?_, ?_, ?_⟩
  · intro p rec hm
    obtain ⟨q, -, -, rfl⟩ := hrec p rec hm
    exact (preparedTaxa_props _).2.2
  · show (keys db.exportations).Nodup
    rw [wf.exp_keys]; exact wf.paths_nodup
  · intro p rec t spans hm ht
    obtain ⟨q, hq, -, rfl⟩ := hrec p rec hm
    obtain ⟨t', ht', -, hv⟩ := (preparedTaxa_props _).1 (t, spans) ht
    simp only at hv
    intro hnil
    rw [hnil] at hv
    have hs := hne q hq t' ht'
    cases hsp : t'.spans with
    | nil => exact hs hsp
    | cons x xs =>
      have : Span3.poor x ∈ preparedSpans t'.spans :=
        mem_preparedSpans.mpr ⟨x, by rw [hsp]; exact List.mem_cons_self, rfl⟩
      rw [← hv] at this
      cases this
  · intro t p
    show p ∈ (dictGet? db.taxa t).getD [] ↔ _
    rw [mem_getD_iff, wf.taxa_index]
    constructor
    · rintro ⟨r, hr, ht⟩
      obtain ⟨e, he, hk⟩ := List.mem_map.mp ht
      exact ⟨r.taxa, e.2, (hget p r.taxa).mpr ⟨r, hr, rfl⟩, by rw [← hk]; exact he⟩
    · rintro ⟨rec, spans, hm, ht⟩
      obtain ⟨r, hr, rfl⟩ := (hget p rec).mp hm
      exact ⟨r, hr, List.mem_map.mpr ⟨(t, spans), ht, rfl⟩⟩
  · intro t p rec spans hm ht
    obtain ⟨r, hr, rfl⟩ := (hget p rec).mp hm
    have hin : InAt db.taxa t p :=
      (wf.taxa_index t p).mpr ⟨r, hr, List.mem_map.mpr ⟨(t, spans), ht, rfl⟩⟩
    obtain ⟨l, hl, -⟩ := hin
    exact get?_isSome.mp ⟨l, hl⟩
  · intro p
    show p ∈ keys db.exportations ↔ p ∈ (toFilterDB db).programs.map (·.1)
    rw [hkeys, wf.exp_keys]
  · intro p q hq
    rw [hexp, wf.exp_inverse] at hq
    obtain ⟨l, hl, -⟩ := hq
    rw [hkeys, ← wf.imp_keys]
    exact get?_isSome.mp ⟨l, hl⟩
  · intro a b d hab hbd
    rw [hexp, wf.exp_inverse] at hab hbd ⊢
    exact wf.imp_trans a b d hab hbd

/-- Non-vacuity of the bridge: the two-program cycle, with a taxonomy giving every program one taxon
with one span, yields a database to which the filter theorems apply. -/
example : ∃ db, makeDb (fun _ _ => [{ name := [120], spans := [(1, 1, [])] }]) cycleProgs = .ok db ∧
    Paroxy.Filter.DB.WF (toFilterDB db) := by
  obtain ⟨db, h⟩ := C11_total (toTaxa := fun _ _ => [{ name := [120], spans := [(1, 1, [])] }])
    (progs := cycleProgs)
  refine ⟨db, h, makeDb_filter_wf h (by decide) ?_⟩
  intro p _ t ht
  simp only [List.mem_singleton] at ht
  rw [ht]; simp

/-- **The chain collect → recommend.** For every collection (distinct paths, a taxonomy whose taxa
all have at least one span) the database `make_db` builds can be loaded by the filter:
`add_imported_taxa` succeeds on it, keeps its programs, and yields a context satisfying `Ctx.WF` —
the one hypothesis of the filter theorems C04–C07 and C17 — for EVERY regex oracle. So those theorems
apply to every database that `collect` writes, not only to hand-made ones. -/
theorem C11_feeds_filter (h : makeDb toTaxa progs = .ok db) (hn : (pathsOf progs).Nodup)
    (hne : TaxaNonempty toTaxa progs) (orc : Paroxy.Filter.Oracle) :
    ∃ ps, Paroxy.Filter.addImported (toFilterDB db) = some ps ∧
      ps.map (·.1) = (toFilterDB db).programs.map (·.1) ∧
      Paroxy.Filter.Ctx.WF { orc := orc, programs := ps, taxa := (toFilterDB db).taxa,
                             exportations := (toFilterDB db).exportations } :=
  let ⟨ps, h1, h2, h3, _⟩ := Paroxy.Filter.addImported_spec (toFilterDB db) (makeDb_filter_wf h hn hne) orc
  ⟨ps, h1, h2, h3⟩

/-! ## The JSON text written by `get_json` (Model/JsonText.lean)

`getJsonText v = compact (dumps2 v ++ "\n")` where `dumps2` is `json.dumps(·, indent=2)` (`ensure_ascii=True`) and
`compact` the `regex.sub(r"\s*\[\n\s*(\d+),\n\s*(\d+)\n\s*\](,?)\s+", r"[\1,\2]\3", ·)` of `get_json`. -/
section JsonTextLayer
open Paroxy.JsonText

/-- **No raw newline in a string literal.** Whatever the string (a source text containing `"[\n 1,\n 2\n]"` included),
its JSON literal consists of printable ASCII only: a newline is written `\n` (two characters), so the literal
newlines the compaction regex requires after `[` cannot occur inside a string. -/
theorem dumps_string_has_no_raw_newline (s : Str) :
    (∀ x ∈ quote s, 32 ≤ x ∧ x ≤ 126) ∧ (10 : Nat) ∉ quote s :=
  ⟨quote_printable s, fun h => by have := quote_printable s 10 h; omega⟩

/-- **The compaction changes span lists only** — three facts, each for EVERY text `t`, not only those `dumps2` writes:
(1) what it deletes is white space (the text without white space is unchanged);
(2) from every lexer state — inside a string literal included — the token sequence of a text that lexes is unchanged
    (so no character of a string literal is deleted: a match cannot start or end inside one);
(3) where no match starts, the character is copied. -/
theorem C11_compact_only_span_lists :
    (∀ t : Str, noWs (compact t) = noWs t) ∧
    (∀ (t : Str) (st : St) (toks : List Tok), lex st t = some toks → lex st (compact t) = some toks) ∧
    (∀ (n c : Nat) (t : Str), matchAt (c :: t) = none → compactF (n + 1) (c :: t) = c :: compactF n t) :=
  ⟨fun t => noWs_compactF _ t, lex_compact, fun n c t h => by simp [compactF, h]⟩

/-- The scanner is well defined: a match consumes at least one character, so the fuel `t.length` of `compact` is never
exhausted — any larger fuel gives the same text. -/
theorem C11_compact_fuel (n : Nat) (t : Str) (h : t.length ≤ n) : compactF n t = compact t :=
  compactF_eq_compact n t h

/-- **Compaction preserves the parsed value**, for every text that parses. -/
theorem C11_compact_preserves_loads (t : Str) (v : J) (h : loads t = some v) : loads (compact t) = some v :=
  loads_compact t v h

/-- **The text of `get_json` lexes to the tokens of the data**, for every value: each string literal of the file is
exactly the escaped form `escStr s` of the string it stands for (sources are never altered by the compaction), each
number its decimal digits, in the order of the data. -/
theorem C11_text_tokens (v : J) :
    lex .out (dumps2 v ++ [10]) = some (toksV v) ∧ lex .out (getJsonText v) = some (toksV v) :=
  ⟨lex_dumps2 v, lex_getJsonText v⟩

/-- Token-level form: the text layer (layout, escaping into printable ASCII, compaction) for every value, without
hypothesis on its strings: the text parses back to `v` as soon as the tokens of `v` do. -/
theorem C11_json_roundtrip_of_tokens (v : J) (h : parseToks (toksV v) = some v) : loads (getJsonText v) = some v := by
  unfold loads; rw [lex_getJsonText v]; exact h

/-- Strings and numbers come back: `decode (escStr s) = s` (all escapes of `ensure_ascii=True`: `\"`, `\\`, `\n`, `\r`,
`\t`, `\b`, `\f`, `\u00XX`, `\uXXXX`, surrogate pairs of astral characters, lone surrogates) and `int(str(n)) = n`. -/
theorem C11_leaves_roundtrip :
    (∀ s : Str, strOk s = true → decode (escStr s) = some s) ∧ (∀ n : Nat, numOf (JsonText.natDigits n) = some n) :=
  ⟨decodeEsc, numOf_natDigits⟩

/-- **The JSON written by `collect` parses back to exactly what was computed.** For every value `v` of the database
shape — any size and nesting, any strings (sources containing laid-out look-alike span lists, quotes, backslashes,
control characters, non-ASCII and astral characters, lone surrogates) — `loads (compact (dumps2 v ++ "\n")) = some v`.
`J.ok`: every code point is below 0x110000 and no high surrogate code point is directly followed by a low one inside a
string — Python's own `json.loads(json.dumps(s))` merges such a pair into one astral character (`example` below);
texts decoded from UTF-8 files hold no surrogate at all. -/
theorem C11_json_roundtrip (v : J) (hok : J.ok v = true) : loads (getJsonText v) = some v :=
  C11_json_roundtrip_of_tokens v (parseToks_toksV v hok)

/-- the hypothesis `J.ok` is needed, in the model as in Python: two surrogate items come back as one character. -/
example : loadsIs (getJsonText (.str [55296, 56320])) (.str [65536]) = true ∧ J.ok (.str [55296, 56320]) = false := by
  decide +kernel

/-- Non-vacuity: a database value whose source string contains a laid-out look-alike span list, next to a real span
list. The look-alike survives character for character; the real one is compacted; the text parses back to the value. -/
def demoSource : Str := codesOf "t = \"[\n 1,\n 2\n]\"\n[\n      3,\n      8\n    ],\n"
def demoDb : J :=
  .obj [(codesOf "programs", .obj [(codesOf "a.py", .obj [
          (codesOf "timestamp", .str (codesOf "2021")),
          (codesOf "source", .str demoSource),
          (codesOf "labels", .obj [(codesOf "flow/loop", .arr [.arr [.num 3, .num 8], .arr [.num 6, .num 7]])]),
          (codesOf "taxa", .obj [])])]),
        (codesOf "labels", .obj [(codesOf "flow/loop", .arr [.str (codesOf "a.py")])]),
        (codesOf "importations", .obj [(codesOf "a.py", .arr [])])]

example : J.ok demoDb = true := by
  unfold demoDb demoSource
  repeat rw [codesOf_ofList]
  decide +kernel
example : loadsIs (getJsonText demoDb) demoDb = true := by
  have ok : J.ok demoDb = true := by
    unfold demoDb demoSource
    repeat rw [codesOf_ofList]
    decide +kernel
  rw [loadsIs, C11_json_roundtrip demoDb ok]
  exact J.beq_refl _
example : (parseToks (toksV demoDb)).isSome = true := by
  have ok : J.ok demoDb = true := by
    unfold demoDb demoSource
    repeat rw [codesOf_ofList]
    decide +kernel
  rw [parseToks_toksV demoDb ok]
  rfl
/-- the compaction did act (the text got shorter) and the real span list is on one line. -/
example : (getJsonText demoDb).length < (dumps2 demoDb ++ [10]).length := by
  unfold demoDb demoSource
  repeat rw [codesOf_ofList]
  decide +kernel
example : strOf (dumpsV 6 (.arr [.arr [.num 3, .num 8], .arr [.num 6, .num 7]])) =
    "[\n        [\n          3,\n          8\n        ],\n        [\n          6,\n          7\n        ]\n      ]" := by
  refine congrArg String.ofList (?_ : _ = _)
  decide +kernel
example : compact (codesOf "{\n  \"k\": [\n    [\n      3,\n      8\n    ],\n    [\n      6,\n      7\n    ]\n  ],\n  \"s\": \"[\\n 1,\\n 2\\n]\"\n}\n")
    = codesOf "{\n  \"k\": [[3,8],[6,7]],\n  \"s\": \"[\\n 1,\\n 2\\n]\"\n}\n" := by
  rw [codesOf_ofList, codesOf_ofList]
  decide +kernel
/-- before the fix 1a46ae2 (F05) the pattern used `\s+` and matched inside sources; a RAW look-alike outside a string
is still compacted (this is what the pattern is for), inside a lexable string literal it cannot be raw. -/
example : compact (codesOf "[\n 1,\n 2\n] ") = codesOf "[1,2]" := by
  rw [codesOf_ofList, codesOf_ofList]
  decide +kernel

/-! ### The round trip of the model's database (Model/JsonDb.lean, Proofs/JsonDb.lean)

`dbToJson db` is the `data` dictionary `get_json` assembles from the fields of a `TagDatabase` (keys `programs` — per
program `timestamp`, `source`, `labels`, `taxa` —, `labels`, `taxa`, `importations`, `exportations`, in the orders of
the code); `dbOk db` says that every string of the database is free of a high surrogate directly followed by a low one;
the spans being pairs of naturals, numbers need no hypothesis for the round trip. -/
section JsonDbLayer
open Paroxy.JsonDb

/-- `J.ok (dbToJson db)` is exactly the string-by-string hygiene of the database. -/
theorem C11_db_json_ok (db : Db) : J.ok (dbToJson db) = dbOk db := ok_dbToJson db

/-- **The JSON written by `collect` parses back to exactly the database that was computed**, for every database
produced by `makeDb` whose strings are hygienic. (The proof does not use `h`: the round trip holds of any hygienic
`db`; `h` says which databases are meant.) -/
theorem C11_db_json_roundtrip (h : makeDb toTaxa progs = .ok db) (hok : dbOk db = true) :
    loads (getJsonText (dbToJson db)) = some (dbToJson db) :=
  have _ := h
  C11_json_roundtrip (dbToJson db) ((ok_dbToJson db).trans hok)

/-- FULL statement (not proved): the hygiene derived from the INPUTS of `makeDb` — the strings of the
programs (paths, time stamps, sources, raw label names, span paths are not written) and the taxon names the oracle
returns. What is missing: `strOk` is preserved by the relabelling (`replaceChar 46 47`, `tweakFirstColon`: both only
write ASCII characters), and every string of the five fields is one of those (membership lemmas through `sortKeys`,
`collectNew`, `collect`, the closure and `exportations`). -/
def C11_db_json_roundtrip_from_inputs : Prop :=
  ∀ (toTaxa : Name → List Label → List Taxon) (progs : List Prog) (db : Db), makeDb toTaxa progs = .ok db →
    (∀ p ∈ progs, strOk p.path = true ∧ strOk p.timestamp = true ∧ strOk p.source = true ∧
      ∀ l ∈ p.labels, strOk l.name = true) →
    (∀ p ls, ∀ t ∈ toTaxa p ls, strOk t.name = true) →
    loads (getJsonText (dbToJson db)) = some (dbToJson db)

/-- **The JSON value determines the database**: two databases whose spans are naturals (line numbers) and that have
the same `data` value have the same records, indexes and import tables. With `C11_db_json_roundtrip`: what
`json.loads` returns on the file written by `collect` determines the database that was computed. -/
theorem C11_dbToJson_injective {a b : Db} (ha : spansNat a) (hb : spansNat b) (h : dbToJson a = dbToJson b) : a = b :=
  dbToJson_inj ha hb h

/-- Non-vacuity on a `makeDb` output: `a.py` (non-ASCII source, an `import:b` label that the relabelling turns into
`import_internally:b`) imports `b.py`; the database is hygienic, and the theorem applies to it. -/
example : makeDb demoTaxa demoProgs = .ok demoOut ∧ dbOk demoOut = true ∧
    loads (getJsonText (dbToJson demoOut)) = some (dbToJson demoOut) :=
  ⟨demo_makeDb, demoOut_ok, C11_db_json_roundtrip demo_makeDb demoOut_ok⟩
example : loadsIs (getJsonText (dbToJson demoOut)) (dbToJson demoOut) = true ∧
    demoOut.importations = [(codesOf "a.py", [codesOf "b.py"]), (codesOf "b.py", [])] := by
  rw [loadsIs, C11_db_json_roundtrip demo_makeDb demoOut_ok]
  exact ⟨J.beq_refl _, rfl⟩

end JsonDbLayer

end JsonTextLayer

end Paroxy.Props.C11
