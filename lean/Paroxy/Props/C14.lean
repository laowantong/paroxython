/-
C14 — One bad file never aborts tagging or collecting.

Property theorems only, about the exception-flow skeleton `Paroxy.Collect.collect` / `tagMain`
(Model/Collect.lean) for ALL behaviours of `clean`, for the behaviours of `parse` / `flatten` / `features` allowed
by the explicit hypotheses `ParseCaught` / `FlattenCaught` / `FeaturesTotal` (which assume what the code relies on), all
directories and all taxonomies. What CPython's tokenizer and parser actually raise on a given text is
outside the model: the harness records it and the model predicts abort vs record.

Since fix c7d362e (`Cleanup.safe_full_cleaning` absorbs every exception of the cleaning) the full
statement `C14_every_file_reported` is a theorem: no hypothesis on `clean` at all.
-/
import Paroxy.Proofs.Collect
import Paroxy.Props.C11
import Paroxy.Props.C03
import Paroxy.Props.C09
import Paroxy.Proofs.MetaAstRow
namespace Paroxy.Props.C14
open Paroxy Paroxy.DB Paroxy.Collect

variable {Tree : Type} {X : Ext Tree} {toTaxa : Name → List Label → List Taxon}
  {files : List (Name × Name)}

/-- **C14 (abort or record).** `collect` returns a database exactly when the parser wrapper raises on
no file — whatever `clean` does (fix c7d362e: an exception of the cleaning is absorbed) and whatever the
labels name (fix 0c1b93c: no `KeyError` any more). -/
theorem C14_collect_ok_iff :
    (∃ db, collect X toTaxa files = .ok db) ↔ ParseOk X (files.map fun f => (f.1, srcOf X f)) := by
  constructor
  · rintro ⟨db, h⟩
    exact (collect_iff.mp h).1
  · intro hp
    obtain ⟨db, hm⟩ := C11.C11_total (toTaxa := toTaxa) (progs := progsOf X files)
    exact ⟨db, collect_iff.mpr ⟨hp, hm⟩⟩

/-- **C14 (every file reported).** For all files and ALL behaviours of `clean` (it may raise anything)
and of `parse` (raising only the classes the code catches), `collect` returns a database with exactly
one record per file, in order; the record of a file whose `parse` — or, for a valid non-empty program,
whose flattening (fix d1e6a10) — fails with `E` holds the single label
`ast_construction:E` on lines `1..(number of newlines + 1)` and, as taxa, the taxonomy's answer on that
single label; an empty file likewise with `EmptyProgramError` (same lines, fix 57ac228). -/
theorem C14_every_file_reported (hp : ParseCaught X) (hfl : FlattenCaught X) (hf : FeaturesTotal X)
    (hn : (files.map (·.1)).Nodup) :
    ∃ db, collect X toTaxa files = .ok db ∧ Reported X toTaxa files db := by
  obtain ⟨db, hm⟩ := C11.C11_total (toTaxa := toTaxa) (progs := progsOf X files)
  have hpo : ParseOk X (files.map fun f => (f.1, srcOf X f)) :=
    fun f _ => parseProgram_total hp hfl hf f.2
  refine ⟨db, collect_iff.mpr ⟨hpo, hm⟩, ?_⟩
  have hn' : (pathsOf (progsOf X files)).Nodup := by rw [pathsOf_progsOf]; exact hn
  obtain ⟨hprog, -⟩ := C11.C11_records hm hn'
  refine ⟨?_, ?_⟩
  · rw [hprog]
    simp [keys, progsOf, progOf, List.map_map, Function.comp_def]
  · intro f hfm
    have hmem : progOf X f ∈ progsOf X files := List.mem_map.mpr ⟨f, hfm, rfl⟩
    refine ⟨recordOf toTaxa (internalOf (progsOf X files)) (progOf X f), get?_programs hm hn' hmem, rfl, ?_, ?_, ?_⟩
    · intro e he
      obtain ⟨hcaught, hcolon⟩ := hp _ e he
      exact recordOf_astLabel _ _ hcolon (by simp only [progOf, labelsD, parseProgram_invalid he hcaught])
    · intro t e ht hne hfe
      obtain ⟨hcaught, hcolon⟩ := hfl _ t e hfe
      exact recordOf_astLabel _ _ hcolon
        (by simp only [progOf, labelsD, parseProgram_unflattenable ht hne hfe hcaught])
    · intro t ht hemp
      exact recordOf_astLabel _ _ sEmpty_noColon
        (by simp only [progOf, labelsD, parseProgram_empty ht hemp, emptyLabel])

/-- **C14 (a raising `clean` is harmless).** When the cleaning raises on a file, the stored source of
that file is the uncleaned text (after hint handling), and the file is reported like any other — by
`C14_every_file_reported`, which has no hypothesis on `clean`. -/
theorem C14_clean_raise_fallback {f : Name × Name} {e : Exc} (he : X.clean f.2 = .error e) :
    srcOf X f = X.prepare f.2 := by
  simp only [srcOf, cleanD, safeClean, he]
  cases X.parse f.2 <;> rfl

/-- **C14 (cleaning never repairs an invalid content — fix F48).** When the raw content of a file is not
valid Python (`parse` fails on it), the cleaning is not applied at all: the stored source is the raw text
after hint handling, WHATEVER `clean` is — i.e. the same under `--cleanup full` and `--cleanup none`. -/
theorem C14_raw_invalid_uncleaned {f : Name × Name} {e : Exc} (h : X.parse f.2 = .error e) :
    srcOf X f = X.prepare f.2 := by
  simp only [srcOf, cleanD, safeClean, h]

/-- **C14 (invalid content ⇒ single error label, under both strategies).** For a file whose raw content is
not valid Python, and is still not once its blank ends are stripped and its (absent) hints handled
(`prepare`), the record holds the single label
`ast_construction:<E>` of THAT text and the taxonomy's answer on it — with no caveat on the cleaning:
`clean` does not appear in the statement. -/
theorem C14_invalid_content_reported (hp : ParseCaught X) (hfl : FlattenCaught X) (hf : FeaturesTotal X)
    (hn : (files.map (·.1)).Nodup) {f : Name × Name} (hfm : f ∈ files) {e e' : Exc}
    (hraw : X.parse f.2 = .error e) (hprep : X.parse (X.prepare f.2) = .error e') :
    ∃ db r, collect X toTaxa files = .ok db ∧ get? db.programs f.1 = some r ∧
      r.source = X.prepare f.2 ∧
      r.labels = [(sAst ++ e'.name, [(1, (((X.prepare f.2).count 10 : Nat) : Int) + 1)])] ∧
      r.taxa = preparedTaxa (toTaxa f.1 [astLabel e'.name (X.prepare f.2)]) := by
  obtain ⟨db, hdb, -, hrep⟩ := C14_every_file_reported (toTaxa := toTaxa) hp hfl hf hn
  obtain ⟨r, hr, hsrc, hinv, -, -⟩ := hrep f hfm
  have hs := C14_raw_invalid_uncleaned (X := X) hraw
  rw [hs] at hsrc hinv
  obtain ⟨h1, h2⟩ := hinv e' hprep
  exact ⟨db, r, hdb, hr, hsrc, h1, h2⟩

def exPath : Name := [97, 46, 112, 121] -- "a.py"
def tokenError : Exc := { name := [84, 111, 107, 101, 110, 69, 114, 114, 111, 114], caught := false }

/-- The witness of the repaired finding F06: one file, a tokenizer that raises `TokenError`. -/
def badExt : Ext Unit :=
  { clean := fun _ => .error tokenError, prepare := id, parse := fun _ => .ok (),
    isEmpty := fun _ => true, flatten := fun _ _ => .ok (), features := fun _ _ => .ok [] }

/-- Non-vacuity: the externals of the former counterexample (every cleaning raises `TokenError`)
satisfy all the hypotheses, so the file is reported. -/
example : ∃ db, collect badExt (fun _ _ => []) [(exPath, [])] = .ok db ∧
    Reported badExt (fun _ _ => []) [(exPath, [])] db :=
  C14_every_file_reported (fun src e he => by simp [badExt] at he)
    (fun src t e he => by simp [badExt] at he) (fun src t => ⟨[], rfl⟩) (by decide)

/-- **C14 (others unaffected).** Removing a file `b` from the directory does not change the record of
any other file `g`, provided no label of `g` names `b`'s module (the relabelling of internal imports
is the only coupling between programs). -/
theorem C14_others_unaffected {db db' : Db} {b : Name}
    (h : collect X toTaxa files = .ok db)
    (h' : collect X toTaxa (files.filter fun f => decide (f.1 ≠ b)) = .ok db')
    (hn : (files.map (·.1)).Nodup) :
    ∀ g ∈ files, g.1 ≠ b → NotImporting X g b →
      get? db'.programs g.1 = get? db.programs g.1 := by
  intro g hg hgb hni
  have hg' : g ∈ files.filter fun f => decide (f.1 ≠ b) := List.mem_filter.mpr ⟨hg, by simpa using hgb⟩
  have hint : internalOf (progsOf X (files.filter fun f => decide (f.1 ≠ b))) =
      internalPaths ((pathsOf (progsOf X files)).filter fun p => decide (p ≠ b)) := by
    simp only [internalOf, progsOf, pathsOf, List.filter_map, List.map_map]
    rfl
  refine C03.C03_collection (collect_iff.mp h').2 (collect_iff.mp h).2
    (by rw [pathsOf_progsOf]; exact (List.filter_sublist.map _).nodup hn) (by rw [pathsOf_progsOf]; exact hn)
    (p := progOf X g) (List.mem_map.mpr ⟨g, hg', rfl⟩) (List.mem_map.mpr ⟨g, hg, rfl⟩) fun l hl m hs => ?_
  rw [hint]
  exact mem_internalPaths_filter (hni l hl m hs)

/-- **C14 (what changes for an importer of the removed file).** The proviso `NotImporting` of
`C14_others_unaffected` is not decoration: a label `n` of another program that names the module of `b`
(`searchImport? n = some m`, `m` as a path `= b`) is relabelled `import_internally:…` (every `.` a `/`)
while `b` is collected, and is left as it is (`import:…`) once `b` is removed — hence, through the
taxonomy, `import/personal` vs `import/third_party/…`, and through `C11_importations`,
`importations` with vs without `b`. The property text has no such proviso: this is the recorded
finding F38 (notes/findings/C14-importer-of-bad-file.md), reported by the harness under a narrow signature. -/
theorem C14_importer_relabel {paths : List Name} {b n m : Name} (hb : b ∈ paths) (hne : b ≠ sPy)
    (hs : searchImport? n = some m) (hm : replaceChar cDot cSlash m ++ sPy = b) :
    relabelName (internalPaths paths) n = replaceChar cDot cSlash (tweakFirstColon n) ∧
    relabelName (internalPaths (paths.filter fun p => decide (p ≠ b))) n = n := by
  unfold relabelName
  rw [hs]
  simp only
  constructor
  · rw [if_pos]
    rw [hm]; exact mem_internalPaths.mpr (Or.inl hb)
  · rw [if_neg]
    rw [hm, mem_internalPaths]
    rintro (h | h)
    · have := (List.mem_filter.mp h).2
      simp at this
    · exact hne h

/-- Non-vacuity of `C14_others_unaffected`: two files (both cleaned by a raising tokenizer, both parsed
to an empty module); removing `b.py` leaves the record of `a.py` unchanged. Both collections succeed and
`NotImporting` holds (the only label of `a.py` is `ast_construction:EmptyProgramError`). -/
example : ∃ db db', collect badExt (fun _ _ => []) [(exPath, []), ([98, 46, 112, 121], [])] = .ok db ∧
    collect badExt (fun _ _ => [])
      ([(exPath, []), ([98, 46, 112, 121], [])].filter fun f => decide (f.1 ≠ [98, 46, 112, 121])) = .ok db' ∧
    get? db'.programs exPath = get? db.programs exPath := by
  have hp : ParseCaught badExt := fun src e he => by simp [badExt] at he
  have hf : FeaturesTotal badExt := fun src t => ⟨[], rfl⟩
  have hfl : FlattenCaught badExt := fun src t e he => by simp [badExt] at he
  obtain ⟨db, h, -⟩ := C14_every_file_reported (toTaxa := fun _ _ => []) hp hfl hf
    (files := [(exPath, []), ([98, 46, 112, 121], [])]) (by decide)
  obtain ⟨db', h', -⟩ := C14_every_file_reported (toTaxa := fun _ _ => []) hp hfl hf
    (files := [(exPath, []), ([98, 46, 112, 121], [])].filter fun f => decide (f.1 ≠ [98, 46, 112, 121]))
    (by decide)
  refine ⟨db, db', h, h', ?_⟩
  apply C14_others_unaffected h h' (by decide) (exPath, []) (by simp) (by decide)
  intro l hl m hs
  have hnone : ∀ l ∈ labelsD badExt (srcOf badExt (exPath, [])), searchImport? l.name = none := by decide
  rw [hnone l hl] at hs; cases hs

/-- **C14 (the closure terminates).** `complete_and_collect_importations` is a total function of the
dictionary of direct importations — accepted by Lean through the termination measure
(unvisited keys, stack length) of `closureLoop`, for every graph (cycles, self-imports, dangling
targets) — and its value at `p` is the set of nodes reachable from `p` in one or more steps. In
particular no `RecursionError` is among the behaviours of `collect`. -/
theorem C14_closure_terminates (d : List (Name × List Name)) :
    keys (completeImportations d) = keys d ∧
    ∀ p ∈ keys d, ∃ l, get? (completeImportations d) p = some l ∧ StrictSorted l ∧
      ∀ q, q ∈ l ↔ Relation.TransGen (Direct d) p q :=
  ⟨keys_completeImportations d, fun _ hp => ⟨_, closure_spec d hp⟩⟩

/-- **C14 (`tag` reports).** `cli_tag.main` does not clean: whenever `parse` raises only classes the
code catches (and the feature search does not raise), it returns; invalid text gives the single label
`ast_construction:<E>`, an empty module `ast_construction:EmptyProgramError`, and the taxa are the
taxonomy's answer on that single label. -/
theorem C14_tag_reports (hp : ParseCaught X) (hfl : FlattenCaught X) (hf : FeaturesTotal X) (src : Name) :
    (∃ r, tagMain X toTaxa src = .ok r) ∧
    (∀ e, X.parse (X.prepare src) = .error e →
      tagMain X toTaxa src = .ok ([astLabel e.name (X.prepare src)],
        toTaxa [] [astLabel e.name (X.prepare src)])) ∧
    (∀ t, X.parse (X.prepare src) = .ok t → X.isEmpty t = true →
      tagMain X toTaxa src = .ok ([emptyLabel (X.prepare src)],
        toTaxa [] [emptyLabel (X.prepare src)])) := by
  refine ⟨?_, ?_, ?_⟩
  · obtain ⟨ls, hls⟩ := parseProgram_total hp hfl hf (X.prepare src)
    exact ⟨_, by unfold tagMain; rw [hls]⟩
  · intro e he
    unfold tagMain
    rw [parseProgram_invalid he (hp _ e he).1]
  · intro t ht hemp
    unfold tagMain
    rw [parseProgram_empty ht hemp]

/-- Non-vacuity of `C14_tag_reports`: externals whose parser only raises `SyntaxError` (a caught class)
satisfy the hypotheses, and `tag` then reports the single label `ast_construction:SyntaxError`. -/
def syntaxErrorExt : Ext Unit :=
  { clean := fun s => .ok s, prepare := id,
    parse := fun _ => .error { name := [83, 121, 110, 116, 97, 120, 69, 114, 114, 111, 114], caught := true },
    isEmpty := fun _ => false, flatten := fun _ _ => .ok (), features := fun _ _ => .ok [] }

example : tagMain syntaxErrorExt (fun _ ls => [{ name := [109], spans := (ls.flatMap (·.spans)) }]) [120, 10] =
    .ok ([astLabel [83, 121, 110, 116, 97, 120, 69, 114, 114, 111, 114] [120, 10]],
         [{ name := [109], spans := [(1, 2, [])] }]) := by
  have h := (C14_tag_reports (X := syntaxErrorExt)
    (toTaxa := fun _ ls => [{ name := [109], spans := (ls.flatMap (·.spans)) }])
    (fun src e he => by
      simp only [syntaxErrorExt, Except.error.injEq] at he
      rw [← he]; exact ⟨rfl, by decide⟩)
    (fun src t e he => by simp [syntaxErrorExt] at he)
    (fun src t => ⟨[], rfl⟩) [120, 10]).2.1 _ rfl
  rw [h]
  rfl

/-! ### The taxon clause, with the real table (`Gen.TaxonomyCodes` is regenerated from taxonomy.tsv) -/

section MetaAst
open Paroxy.Taxo Paroxy.Spec.Taxo Paroxy.MetaAst

/-- **C14 (single taxon `meta/ast/<ErrorName>`), on the default taxonomy.** Let `rows` be the default
table as `Taxonomy.__init__` reads it. Under oracle agreement on that row — the regex engine says that
`ast_construction:(.+)` matches the label `ast_construction:<E>` entirely and expands `meta/ast/\1` to
`meta/ast/<E>`; the label does not "look like a taxon"; no OTHER row applies to it (three facts about
the `regex` engine, evaluated with the real engine by the harness for every error name met) — the
translation of the single label of an invalid (or empty) program is exactly the taxon `meta/ast/<E>`,
in every state of the taxonomy instance (`C09_same_on_every_call`). The membership of the row in the
table is NOT a hypothesis: it is `astLine_in_default_table`. -/
theorem C14_meta_ast (o : Oracle) (rows : List Row) (E : Str)
    (hrows : parseTsv defaultText = .ok rows)
    (hlooks : o.looks (astPrefix ++ E) = false)
    (hfull : o.full astRow (astPrefix ++ E) = some (metaAstPrefix ++ E))
    (hothers : ∀ r ∈ rows, r ≠ astRow → rowResult o r (astPrefix ++ E) = none) :
    astRow ∈ rows ∧ ∀ x, x ∈ translate o rows (astPrefix ++ E) ↔ x = metaAstPrefix ++ E := by
  have hmem : astRow ∈ rows := by
    unfold parseTsv Taxo.parseAll at hrows
    split at hrows
    · simp only [Except.ok.injEq] at hrows
      rw [← hrows, ← astRow_of_line.1]
      apply List.mem_map_of_mem
      have h1 : astLine ∈ rawLines defaultText := by
        have := astLine_in_default_table
        simpa using this
      exact (List.mergeSort_perm _ _).mem_iff.mpr h1
    · cases hrows
  refine ⟨hmem, fun x => ?_⟩
  rw [C09.C09_exact]
  have hrow : rowResult o astRow (astPrefix ++ E) = some (metaAstPrefix ++ E) := by
    unfold rowResult
    rw [astRow_of_line.2]
    simpa using hfull
  constructor
  · rintro (⟨hl, -⟩ | ⟨-, r, hr, hres⟩)
    · rw [hlooks] at hl; cases hl
    · by_cases hra : r = astRow
      · rw [hra, hrow] at hres
        simp only [Option.some.injEq] at hres
        exact hres.symm
      · rw [hothers r hr hra] at hres; cases hres
  · intro hx
    exact Or.inr ⟨hlooks, astRow, hmem, by rw [hrow, hx]⟩

end MetaAst

end Paroxy.Props.C14
