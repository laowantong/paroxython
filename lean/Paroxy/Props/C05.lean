/-
C05 — A negated triple selects programs having an unmatched subject span.

`MeetsNegTriple` (Spec/Filter.lean) is the property's wording: the program has an occurrence
`s1` of a taxon matching `p1` such that no *other* occurrence `s2` of a taxon matching `p2`
satisfies `R(s1, s2)`. The model mirrors `programs_of_negated_triple` as repaired by the `fix:`
commit 36d3c6b (the original code violated this property; see known_findings.json F01).
-/
import Paroxy.Proofs.Filter
import Paroxy.Props.C08
import Paroxy.Props.C16
namespace Paroxy.Props.C05
open Paroxy Paroxy.Filter Paroxy.Spec

variable (c : Ctx) (r : Relations)

/-- **C05.** The programs a negated triple contributes are exactly those meeting the
specification — every well-formed database, every oracle, every relation. -/
theorem C05_negated (wf : c.WF) (p1 raw p2 : Codes) (pred : Span → Span → Bool)
    (hp : r.predicate raw = .ok (pred, true)) (S : List Codes)
    (h : criterionPrograms c r false (.triple p1 raw p2) = .ok S) (p : Codes) :
    p ∈ S ↔ MeetsNegTriple c p1 pred p2 p := by
  have := criterionPrograms_include c wf r (.triple p1 raw p2) S h p
  simpa [Meets, hp] using this

/-- … and so `include [(p1, not R, p2)]` keeps exactly the selected programs meeting it. -/
theorem C05_include_negated (wf : c.WF) (st st' : State) (p1 raw p2 : Codes) (pred : Span → Span → Bool)
    (hp : r.predicate raw = .ok (pred, true))
    (h : updateFilter c r st [.triple p1 raw p2] .include false = .ok st') (p : Codes) :
    p ∈ st'.selected ↔ p ∈ st.selected ∧ MeetsNegTriple c p1 pred p2 p := by
  have := (include_any_spec c wf r st st' _ h).1 p
  simpa [Meets, hp] using this

/-- A program featuring `p1` and nothing matching `p2` meets the negated triple. -/
theorem C05_no_object (p1 p2 : Codes) (pred : Span → Span → Bool) (p t1 : Codes) (i : Nat) (s1 : Span)
    (hm : c.orc.matchTaxon p1 t1 = true) (ho : Occ c p t1 i s1)
    (hnone : ∀ t2 j s2, c.orc.matchTaxon p2 t2 = true → ¬ Occ c p t2 j s2) :
    MeetsNegTriple c p1 pred p2 p :=
  ⟨t1, i, s1, hm, ho, fun t2 j s2 hm2 ho2 _ => absurd ho2 (hnone t2 j s2 hm2)⟩

/-- A program where the only candidate `s2` is the occurrence `s1` itself meets it, whatever `R`. -/
theorem C05_self_only (p1 p2 : Codes) (pred : Span → Span → Bool) (p t1 : Codes) (i : Nat) (s1 : Span)
    (hm : c.orc.matchTaxon p1 t1 = true) (ho : Occ c p t1 i s1)
    (honly : ∀ t2 j s2, c.orc.matchTaxon p2 t2 = true → Occ c p t2 j s2 → t1 = t2 ∧ i = j) :
    MeetsNegTriple c p1 pred p2 p :=
  ⟨t1, i, s1, hm, ho, fun t2 j s2 hm2 ho2 hne => absurd (honly t2 j s2 hm2 ho2) hne⟩

/-- The relations as the real filter sees them: the generated dictionary and table. -/
def genRelations : Relations := { names := NP.names, table := Gen.table }

/-- Any `!`-negated formula spelling (arbitrary junk, see C16) of any of the 162 keys denotes,
negated, exactly the chain that key spells (C08): the relation a negated triple tests is the
intended one. -/
theorem C05_negation_spelling (k : Key) (hk : k ∈ allKeys) (st : Spec.NP.FormulaStyle)
    (hj : st.junkOk = true) (a b : Nat) :
    ∃ pred, genRelations.predicate
        (List.replicate a 32 ++ 33 :: List.replicate b 32 ++ Spec.NP.renderFormula k st) =
          .ok (pred, true) ∧ ∀ x y : Span, pred x y = true ↔ k.Holds x y :=
  Relations.predicate_of_normalize (C08.C08_meaning k hk) (C16.C16_formula_bang k hk st hj a b)

/-- The same for the plain (positive) spelling. -/
theorem C05_positive_spelling (k : Key) (hk : k ∈ allKeys) (st : Spec.NP.FormulaStyle)
    (hj : st.junkOk = true) :
    ∃ pred, genRelations.predicate (Spec.NP.renderFormula k st) = .ok (pred, false) ∧
      ∀ x y : Span, pred x y = true ↔ k.Holds x y :=
  Relations.predicate_of_normalize (C08.C08_meaning k hk) (C16.C16_formula k hk st hj)

open Paroxy.Spec.NP Paroxy.NP in
/-- The same for the NAMED relations: every case spelling of each of the 13 Allen names and 6 synonyms,
under every decoration of the specification's list (`not `, `is not `, `!`, ` not`, … or none), denotes
— negated exactly when the decoration says so — the chain of the key the manual gives for that name
(C16 for the spelling, C08 for the meaning). `("meta/program", "not contains", X)` is an instance. -/
theorem C05_named_relation (n : Codes) (k : Key) (h : (n, k) ∈ aliases) (d : Str × Str × Bool)
    (hd : d ∈ decorations) (mask : List Bool) :
    ∃ pred, genRelations.predicate (d.1 ++ renderName n mask ++ d.2.1) = .ok (pred, d.2.2) ∧
      ∀ x y : Span, pred x y = true ↔ k.Holds x y :=
  Relations.predicate_of_normalize (C08.C08_meaning k (aliases_mem_allKeys h))
    (C16.C16_name_spec_decorated n k h d hd mask)

end Paroxy.Props.C05
