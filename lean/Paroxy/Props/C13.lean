/-
C13 — Full cleaning removes only noise and keeps the program's structure.   (PARTIAL)

Property theorems only. The model is lean/Paroxy/Model/Cleanup.lean: the text passes of `Cleanup` as
structural functions (R2), the token loop of `full_cleaning` taking the TOKEN LIST as input, and
`suppress_main_guard` taking the parser's answer (line ranges of the top-level `if`s) as input. It mirrors
/repo after the repairs e959b88 (F08), ff0b849 (F18), decc026 (F21), 2488bc4 (F19), 466f14f (F22+F23),
55c4b14 (F33), 9ee7189 (F20), 4b0a4d7 (F36), 643e8d6 (F37),
and the repairs F42 (injection on the last line), F43 (guard recognised by its test), F44 (\\N{…} in f-strings),
F50 (an injection STATEMENT goes with all its lines: `suppress_sys_path_injection` takes the parser's statements as input).

PROVED here, for every text and every token list (not only those CPython's tokenizer can produce):
  * no line of the result is empty or blank                                   (C13_no_blank_line,
    C13_no_blank_line_full for `full_cleaning` itself; C13_noBlankLineB_iff: the executable form)
  * a COMMENT token is emitted iff it carries a hint, then in normal form     (C13_only_hint_comments,
    C13_hint_comment_normal_form, C13_hint_tokens_kept; C13_isHint_iff: what carrying a hint means)
  * the STRING tokens that become `pass` are exactly the docstring-like string statements of the
    code-independent specification `DocStmt` (a string literal that is a whole statement, with or
    without a trailing comment)                                               (C13_docstring_to_pass)
  * the token loop never raises: `full_cleaning` fails only when the tokenizer does (C13_cleaning_total)
  * literal braces of f-strings are re-doubled                                (C13_fstring_braces)
  * `suppress_first_comments` deletes leading `#` lines that carry no hint
    marker, and nothing else                                                  (C13_first_comments_only),
    hence keeps every line carrying a hint marker, first line included        (C13_hints_kept)
  * the two final passes are idempotent                                       (C13_blank_pass_idempotent,
                                                                               C13_pass_pass_idempotent)
  * `suppress_main_guard` (parser as an oracle) removes exactly the lines of the guarded top-level
    `if` blocks and keeps every other line in order — repair 9ee7189          (C13_main_guard,
                                                                               an unparsable source is unchanged)
  * `suppress_sys_path_injection` (parser as an oracle) removes exactly the lines of the column-0
    top-level statements whose first line is an injection, all of them — repair F50 (C13_injection_statements,
                                                                               C13_injection_marks, C13_injections,
                                                                               C13_injection_whole_statement)
  * a token on a later row inside an open logical line (backslash continuation) is kept apart from
    the previous one, column 0 included — repair 55c4b14                     (C13_rows_not_glued;
    C13_line_open: when the logical line is open)

NOT provable here (CPython's tokenizer and parser are outside the model) — exercised only by
harness/c13.py: the result is valid Python with the same AST modulo the four kinds of noise, invariance
under insertion of comments / blank lines / docstrings, idempotence of the whole cleaning.
-/
import Paroxy.Model.Cleanup
import Paroxy.Spec.Cleanup
import Paroxy.Proofs.Cleanup
import Paroxy.Proofs.CleanupLoop
import Paroxy.Proofs.CleanupInj
namespace Paroxy.Props.C13
open Paroxy.Cleanup Paroxy.Cleanup.Spec

/-- **C13 (no blank line).** Whatever the token list, the text that `full_cleaning` returns has no
empty or blank line (it may be the empty text). -/
theorem C13_no_blank_line (ts : List Token) : NoBlankLine (postprocess ts) :=
  finish_noBlankLine (loopText ts)

/-- The same for `full_cleaning` itself, whatever the tokenizer answers (it may raise). -/
theorem C13_no_blank_line_full {ε : Type} (parse : Text → Option (List IfStmt))
    (parseStmts : Text → Option (List Stmt))
    (tokenize : Text → Except ε (List Token)) (src out : Text)
    (h : fullCleaning parse parseStmts tokenize src = .ok out) : NoBlankLine out := by
  unfold fullCleaning at h
  split at h
  · cases h
  · cases h
    exact C13_no_blank_line _

/-- The executable form used by the harness on the implementation's outputs is the same predicate. -/
theorem C13_noBlankLineB_iff (t : Text) : noBlankLineB t = true ↔ NoBlankLine t := by
  simp [noBlankLineB, NoBlankLine, List.isEmpty_iff]

example : NoBlankLine "x = 1\n  y".toList := (C13_noBlankLineB_iff _).mp (by decide +kernel)
example : ¬ NoBlankLine "x = 1\n  \ny".toList := fun h =>
  absurd ((C13_noBlankLineB_iff _).mpr h) (by decide +kernel)

/-- **C13 (only hint comments).** For every token list and every position `i`: a COMMENT token is
dropped when it carries no hint marker and is emitted in normal form when it does; no other token
is emitted as a comment or dropped. -/
theorem C13_only_hint_comments (ts : List Token) (i : Nat) (h : i < ts.length) :
    let e := (loop ts)[i]'(by rw [loop, loopFrom_length]; exact h)
    (ts[i].kind = .comment →
        e.piece = if isHint ts[i].str then .hint (normalizeComment ts[i].str).1 else .dropped) ∧
    (ts[i].kind ≠ .comment → e.piece ≠ .dropped ∧ ∀ s, e.piece ≠ .hint s) := by
  simp only [loop_piece ts i h]
  constructor
  · intro hc
    simp only [hc, if_true, isHint, bne_iff_ne, ne_eq, ite_not]
  · intro hc
    simp only [hc, if_false]
    split
    · simp
    · split <;> simp

/-- `isHint`, declaratively: the marker regex `#\s*paroxython\s*:\s*` (any case; `markerRest?` is its
structural transcription) matches at some position of the comment. -/
theorem C13_isHint_iff (s : Text) :
    isHint s = true ↔ ∃ a b, s = a ++ b ∧ (markerRest? b).isSome = true := by
  rw [← normAux_zero_count]
  simp [isHint, normalizeComment]

/-- **C13 (normal form).** The emitted form of a hint comment contains `# paroxython: ` literally. -/
theorem C13_hint_comment_normal_form (s : Text) (h : isHint s = true) :
    ∃ a b, (normalizeComment s).1 = a ++ "# paroxython: ".toList ++ b := by
  have : (normAux 0 s).2 ≠ 0 := by simpa [isHint, normalizeComment] using h
  exact normAux_marker 0 s this

-- Here and in the test vectors below: evaluating `String.toList` on a literal decodes its UTF-8 bytes,
-- which is slow in the kernel; `String.toList_ofList` reads the characters off the literal instead.
example : isHint "#Paroxython :  foo".toList = true := by
  rw [String.toList_ofList]
  decide +kernel
example : (normalizeComment "x #Paroxython :  foo".toList).1 = "x # paroxython: foo".toList := by
  rw [String.toList_ofList, String.toList_ofList]
  decide +kernel
example : isHint "# paroxython foo".toList = false := by
  rw [String.toList_ofList]
  decide +kernel

/-- **C13 (hints kept by the loop).** Every hint comment of the token list is in the joined output of
the loop, in normal form. -/
theorem C13_hint_tokens_kept (ts : List Token) (i : Nat) (h : i < ts.length)
    (hc : ts[i].kind = .comment) (hh : isHint ts[i].str = true) :
    ∃ a b, loopText ts = a ++ (normalizeComment ts[i].str).1 ++ b := by
  have hi : i < (loop ts).length := by rw [loop, loopFrom_length]; exact h
  have he := (C13_only_hint_comments ts i h).1 hc
  rw [hh, if_pos rfl] at he
  obtain ⟨s, t, hst⟩ := List.append_of_mem (List.getElem_mem hi)
  refine ⟨s.flatMap Emit.text ++ List.replicate (loop ts)[i].pad ' ', t.flatMap Emit.text, ?_⟩
  conv => lhs; rw [loopText, hst, List.flatMap_append, List.flatMap_cons, Emit.text, he]
  simp only [Piece.text, List.append_assoc]

/-- **C13 (docstring ⇔ pass)** — FULL since repairs ff0b849 (finding 18) and 4b0a4d7 (finding 36).
Token `i` is replaced by `pass` exactly when it is a docstring-like string STATEMENT in the sense of
the specification `DocStmt`, which does not mention the code's look-ahead: a STRING standing at a
statement start (`AtStmtStart`) such that, comments apart, the next token is the NEWLINE closing the
logical line — a string literal that is a whole statement, with or without a trailing comment.
A statement that merely begins with a string literal (`"abc".join(x)`, `"a" if x else "b"`) is left
alone. -/
theorem C13_docstring_to_pass (ts : List Token) (i : Nat) (h : i < ts.length) :
    ((loop ts)[i]'(by rw [loop, loopFrom_length]; exact h)).piece = .pass ↔ DocStmt ts i := by
  have hD : DocStmt ts i ↔ ts[i].kind = .string ∧ atStmtStartB (ts.take i) = true ∧
      nextCodeKind (ts.drop (i + 1)) = some .newline := by
    simp only [DocStmt, List.getElem?_eq_getElem h, Option.some.injEq, exists_eq_left', atStmtStartB_iff]
  rw [loop_piece ts i h, hD]
  by_cases hd : ts[i].kind = .string ∧ atStmtStartB (ts.take i) = true ∧
      nextCodeKind (ts.drop (i + 1)) = some .newline
  · rw [if_neg (by rw [hd.1]; decide), if_pos hd]
    exact iff_of_true rfl hd
  · refine iff_of_false ?_ hd
    rw [if_neg hd]
    split
    · split <;> simp
    · split <;> simp

/-- `"abc".join` at the beginning of a file: STRING, `.`, NAME, NEWLINE — finding 18's shape. -/
def joinWitness : List Token :=
  [⟨.string, "\"abc\"".toList, 1, 0, 1, 5⟩, ⟨.other, ".".toList, 1, 5, 1, 6⟩,
   ⟨.other, "join".toList, 1, 6, 1, 10⟩, ⟨.newline, "\n".toList, 1, 10, 1, 11⟩]

example : postprocess joinWitness = "\"abc\".join".toList := by decide +kernel
example : docStmtB joinWitness 0 = false := by decide +kernel

/-- A module docstring after a blank first line (finding 21, repaired by decc026): NL, STRING, NEWLINE. -/
def blankThenDocstring : List Token :=
  [⟨.nl, "\n".toList, 1, 0, 1, 1⟩, ⟨.string, "\"doc\"".toList, 2, 0, 2, 5⟩,
   ⟨.newline, "\n".toList, 2, 5, 2, 6⟩, ⟨.other, "x".toList, 3, 0, 3, 1⟩]

example : postprocess blankThenDocstring = "x".toList := by decide +kernel

/-- A docstring followed by a trailing comment (finding 36, repaired by 4b0a4d7):
STRING, COMMENT, NEWLINE, `x` — the STRING is a `DocStmt` and goes at the first cleaning. -/
def docstringThenComment : List Token :=
  [⟨.string, "\"doc\"".toList, 1, 0, 1, 5⟩, ⟨.comment, "# c".toList, 1, 6, 1, 9⟩,
   ⟨.newline, "\n".toList, 1, 9, 1, 10⟩, ⟨.other, "x".toList, 2, 0, 2, 1⟩]

example : docStmtB docstringThenComment 0 = true := by decide +kernel
example : postprocess docstringThenComment = "x".toList := by decide +kernel

/-- **C13 (the loop never raises)** — since 4b0a4d7 the look-ahead is total: `full_cleaning` fails only
when the tokenizer does (before it, a last STRING token raised IndexError). The statement is the shape of
`fullCleaning`. -/
theorem C13_cleaning_total {ε : Type} (parse : Text → Option (List IfStmt))
    (parseStmts : Text → Option (List Stmt))
    (tokenize : Text → Except ε (List Token)) (src : Text) (ts : List Token)
    (h : tokenize (preprocess parse parseStmts src) = .ok ts) :
    fullCleaning parse parseStmts tokenize src = .ok (postprocess ts) := by
  simp [fullCleaning, h]

/-- **C13 (f-string braces)** — repair 2488bc4 (finding 19). An FSTRING_MIDDLE token is emitted with
each of its (halved) braces doubled again. -/
theorem C13_fstring_braces (ts : List Token) (i : Nat) (h : i < ts.length)
    (hk : ts[i].kind = .fstringMiddle) :
    ((loop ts)[i]'(by rw [loop, loopFrom_length]; exact h)).piece = .verbatim (doubleBraces ts[i].str) := by
  simp [loop_piece ts i h, hk]

example : doubleBraces "{a}".toList = "{{a}}".toList := by decide +kernel
/-- the braces of a named escape are left alone (finding 44, `f"\N{DIGIT ONE}"`) -/
example : doubleBraces "{\\N{DIGIT ONE}}x}".toList = "{{\\N{DIGIT ONE}}}x}}".toList := by
  rw [String.toList_ofList, String.toList_ofList]
  decide +kernel

/-- **C13 (first comments).** `suppress_first_comments` removes a block of leading lines that all
begin with `#` and none of which carries the hint marker (anywhere), and nothing else: the lines of the
text are the removed block followed by the lines of the result. -/
theorem C13_first_comments_only (t : Text) :
    ∃ dropped, splitNl t = dropped ++ splitNl (suppressFirstComments t) ∧
      ∀ l ∈ dropped, l ∈ (splitNl t).takeWhile startsWithHash ∧ isHintLine l = false := by
  obtain ⟨d, hd, hmem, hne⟩ := dropLeadingComments_spec (splitNl t) (splitNl_no_nl t)
  refine ⟨d, ?_, hmem⟩
  unfold suppressFirstComments
  rw [splitNl_joinNl _ (hne (splitNl_ne_nil t))]
  · exact hd
  · intro l hl
    apply splitNl_no_nl t l
    rw [hd]
    exact List.mem_append_right _ hl

/-- **C13 (hints kept, first line included)** — FULL since repairs e959b88 (finding 8) and 643e8d6
(finding 37). Every line that carries a hint marker — wherever the marker stands in the line,
`# paroxython: foo` and `# x # paroxython: foo` on the first line included — is a line of the result
of `suppress_first_comments`. -/
theorem C13_hints_kept (t : Text) (l : Line) (hl : l ∈ splitNl t) (hh : isHintLine l = true) :
    l ∈ splitNl (suppressFirstComments t) := by
  obtain ⟨d, hd, hmem⟩ := C13_first_comments_only t
  rw [hd] at hl
  rcases List.mem_append.mp hl with h | h
  · have := (hmem l h).2
    rw [hh] at this
    cases this
  · exact h

example : suppressFirstComments "# paroxython: foo\nx = 1\n".toList = "# paroxython: foo\nx = 1\n".toList := by
  rw [String.toList_ofList]
  decide +kernel
example : suppressFirstComments "#!shebang\n# c\n#Paroxython : foo\n# d\nx".toList =
    "#Paroxython : foo\n# d\nx".toList := by
  rw [String.toList_ofList, String.toList_ofList]
  decide +kernel
/-- finding 37's shape: the marker after a later `#` of the first line -/
example : suppressFirstComments "# x # paroxython: foo\ny".toList = "# x # paroxython: foo\ny".toList := by
  rw [String.toList_ofList]
  decide +kernel
example : isHintLine "# x # paroxython: foo".toList = true := by
  rw [String.toList_ofList]
  decide +kernel

/-! ## The main guard (findings F20 and F43, repaired by 9ee7189 and the structural recognition) -/

/-- **C13 (main guard)** — FULL. The parser being an oracle that reports the top-level `if` statements
with their line ranges (`RangesOk`: in bounds, one after the other) and whether their TEST is
`__name__ == '__main__'` — however it is spelled: tabs, several spaces, a backslash continuation,
parentheses, any quotes — the pass removes exactly the lines of the guarded `if` statements and keeps
every other line, in order (`keepOutsideGuards`): what FOLLOWS a guarded block survives, and a guard
is removed at the FIRST cleaning whatever its layout. -/
theorem C13_main_guard (t : Text) (ifs : List IfStmt) (hok : RangesOk 0 (splitNl t).length ifs) :
    suppressMainGuard (some ifs) t = joinNl (keepOutsideGuards 0 (splitNl t) ifs) := by
  exact congrArg joinNl (dropGuards_reverse ifs 0 (splitNl t) [] rfl hok)

/-- A source that the parser rejects is left unchanged (restates the model: an `example`). -/
example (t : Text) : suppressMainGuard none t = t := rfl

/-- the code after the guarded block survives (finding 20's shape) -/
example : suppressMainGuard (some [⟨1, 2, true⟩]) "if __name__ == \"__main__\":\n    main()\nx = 2\n".toList =
    "x = 2\n".toList := by
  rw [String.toList_ofList, String.toList_ofList]
  decide +kernel
/-- a guard written with a tab and a backslash continuation goes at once (finding 43's shape) -/
example : suppressMainGuard (some [⟨1, 3, true⟩]) "if\t__name__ == \\\n  \"__main__\":\n    main()\nx = 2".toList =
    "x = 2".toList := by
  rw [String.toList_ofList, String.toList_ofList]
  decide +kernel
set_option maxRecDepth 4000 in
/-- an ordinary `if` is kept; a guard with an `else:` branch goes as a whole; two guards -/
example : suppressMainGuard (some [⟨1, 2, false⟩, ⟨4, 7, true⟩, ⟨9, 9, true⟩])
    "if x:\n    y = 1\nz = 1\nif __name__ == '__main__':\n    a()\nelse:\n    b()\n# paroxython: foo\nif __name__==\"__main__\": main()\nw = 1".toList =
    "if x:\n    y = 1\nz = 1\n# paroxython: foo\nw = 1".toList := by
  rw [String.toList_ofList, String.toList_ofList]
  decide +kernel

/-! ## `sys.path` injections (findings F42 and F50) -/

/-- **C13 (injection statements)** — FULL since repair F50. The parser being an oracle that reports ALL
the top-level statements with their line ranges and whether they start at column 0 (`RangesOk` on those
at column 0: in bounds, one after the other), the pass removes exactly the lines `lineno … end_lineno`
of the column-0 statements whose FIRST LINE is an injection (`__import__("sys").path[0:0] = …`), and
keeps every other line, in order (`keepOutsideGuards` on `injectionMarks`): a statement written on
several lines goes with ALL its lines, and the test of the first line — which the loop makes on the
list of lines as it is after the deletions already done — is the test on the line of the SOURCE. -/
theorem C13_injection_statements (t : Text) (ss : List Stmt)
    (hok : RangesOk 0 (splitNl t).length (injectionMarks (splitNl t) ss)) :
    suppressSysPath (some ss) t = joinNl (keepOutsideGuards 0 (splitNl t) (injectionMarks (splitNl t) ss)) := by
  rw [← C13_main_guard t _ hok]
  exact congrArg joinNl (dropInjectionStmts_eq_dropGuards _ ss 0 _ [] rfl rfl hok)

/-- A source that the parser rejects is left unchanged (restates the model). -/
example (t : Text) : suppressSysPath none t = t := rfl

/-- **C13 (no injection statement is kept, no other statement is dropped).** The ranges the pass walks
through are the column-0 statements, and a range is dropped iff the first line of the statement is an
injection: a kept top-level statement is not an injection, a dropped one is. -/
theorem C13_injection_marks (ls : List Line) (ss : List Stmt) (r : IfStmt) (hr : r ∈ injectionMarks ls ss) :
    (∃ s ∈ ss, s.col0 = true ∧ r.lineno = s.lineno ∧ r.endLineno = s.endLineno) ∧
    (r.isGuard = true ↔ isInjection (ls.getD (r.lineno - 1) []) = true) := by
  simp only [injectionMarks, List.mem_map, List.mem_filter] at hr
  obtain ⟨s, ⟨hs, hc⟩, rfl⟩ := hr
  exact ⟨⟨s, hs, hc, rfl, rfl⟩, Iff.rfl⟩

/-- **C13 (a multi-line injection goes with ALL its lines)**: the only statement of the text, at
column 0, spanning every line, its first line an injection — nothing is left. -/
theorem C13_injection_whole_statement (t : Text) (n : Nat) (hn : (splitNl t).length = n)
    (h1 : isInjection ((splitNl t).getD 0 []) = true) :
    suppressSysPath (some [⟨1, n, true⟩]) t = [] := by
  subst hn
  have hpos : 0 < (splitNl t).length := List.length_pos_iff.mpr (splitNl_ne_nil t)
  rw [C13_injection_statements]
  · rw [List.getD_eq_getElem?_getD] at h1
    simp [injectionMarks, keepOutsideGuards, h1, joinNl]
  · simp only [injectionMarks, List.filter_cons, List.filter_nil, List.map_cons, List.map_nil, if_true,
      RangesOk, and_true]
    omega

/-- **C13 (injection lines — the single-line case)**. When every injection statement is written on ONE
line and every injection line of the text is the first line of a column-0 statement (no
injection-looking line inside a string or a continuation), the statement-level pass is a filter on the
lines: no line of the result is an injection, and the lines kept are the lines of the text that are not
injections, in order (the last line goes like the others: the third clause holds without its filters). -/
theorem C13_injections (t : Text) (ss : List Stmt)
    (hok : RangesOk 0 (splitNl t).length (injectionMarks (splitNl t) ss))
    (hone : ∀ r ∈ injectionMarks (splitNl t) ss, r.isGuard = true → r.lineno = r.endLineno)
    (hall : ∀ i, i < (splitNl t).length → isInjection ((splitNl t).getD i []) = true →
      ∃ r ∈ injectionMarks (splitNl t) ss, r.lineno = i + 1) :
    suppressSysPath (some ss) t = joinNl ((splitNl t).filter fun l => !isInjection l) ∧
    (∀ l ∈ splitNl (suppressSysPath (some ss) t), isInjection l = false) ∧
    (splitNl (suppressSysPath (some ss) t)).filter (fun l => !l.isEmpty) =
      ((splitNl t).filter fun l => !isInjection l).filter (fun l => !l.isEmpty) := by
  have hk := keepOutside_single_line (injectionMarks (splitNl t) ss) 0 (splitNl t) hok hone
    (fun r hr => by
      simp only [injectionMarks, List.mem_map, List.mem_filter] at hr
      obtain ⟨s, _, rfl⟩ := hr
      rfl)
    (fun i hi h => by simpa using hall i hi h)
  have heq : suppressSysPath (some ss) t = joinNl ((splitNl t).filter fun l => !isInjection l) := by
    rw [C13_injection_statements t ss hok, hk]
  refine ⟨heq, ?_⟩
  rw [heq]
  by_cases hnil : ((splitNl t).filter fun l => !isInjection l) = []
  · rw [hnil]
    simp [joinNl, splitNl, (by decide +kernel : isInjection [] = false)]
  · rw [splitNl_joinNl _ hnil (fun l hl => splitNl_no_nl t l (List.mem_filter.mp hl).1)]
    exact ⟨fun l hl => by simpa using (List.mem_filter.mp hl).2, rfl⟩

/-- the hypotheses of `C13_injections` hold here; the last line goes -/
example : suppressSysPath (some [⟨1, 1, true⟩, ⟨2, 2, true⟩]) "x = 1\n__import__(\"sys\").path[0:0] = [\"a\"]".toList =
    joinNl ((splitNl "x = 1\n__import__(\"sys\").path[0:0] = [\"a\"]".toList).filter fun l => !isInjection l) := by
  rw [String.toList_ofList]
  decide +kernel

/-- the three inputs of finding F50 (the parser's answer is what `ast.parse` reports) -/
example : suppressSysPath (some [⟨1, 4, true⟩, ⟨6, 6, true⟩])
    "__import__(\"sys\").path[0:0] = [\n    \"a\",\n    \"b\",\n]\n# comment\nx = 1\n".toList =
    "# comment\nx = 1\n".toList := by
  rw [String.toList_ofList, String.toList_ofList]
  decide +kernel
example : suppressSysPath (some [⟨1, 2, true⟩, ⟨4, 4, true⟩])
    "__import__(\"sys\").path[0:0] = [\"a\",\n \"b\"]\n# comment\nx = 1\n".toList =
    "# comment\nx = 1\n".toList := by
  rw [String.toList_ofList, String.toList_ofList]
  decide +kernel
/-- ragged continuation lines -/
example : suppressSysPath (some [⟨1, 3, true⟩, ⟨5, 5, true⟩])
    "__import__(\"sys\").path[0:0] = [\n        \"a\",\n    \"b\"]\n# comment\nx = 1\n".toList =
    "# comment\nx = 1\n".toList := by
  rw [String.toList_ofList, String.toList_ofList]
  decide +kernel
/-- a triple-quoted right-hand side; `; y = 2` after the injection goes with its line; an
injection-looking line inside a triple-quoted string (second statement, lines 4-6) is KEPT -/
example : suppressSysPath (some [⟨1, 3, true⟩, ⟨3, 3, false⟩, ⟨4, 6, true⟩])
    "__import__(\"sys\").path[0:0] = \"\"\"a\nb\n\"\"\".split(); y = 2\ns = \"\"\"\n__import__(\"sys\").path[0:0] = [\"a\"]\n\"\"\"".toList =
    "s = \"\"\"\n__import__(\"sys\").path[0:0] = [\"a\"]\n\"\"\"".toList := by
  rw [String.toList_ofList, String.toList_ofList]
  decide +kernel
/-- the last line of a text without final newline (finding F42's shape) -/
example : suppressSysPath (some [⟨1, 1, true⟩, ⟨2, 2, true⟩]) "x = 1\n__import__(\"sys\").path[0:0] = [\"a\"]".toList =
    "x = 1".toList := by
  rw [String.toList_ofList, String.toList_ofList]
  decide +kernel
example : RangesOk 0 6 (injectionMarks (splitNl "__import__(\"sys\").path[0:0] = [\n    \"a\",\n    \"b\",\n]\n# comment\nx = 1\n".toList)
    [⟨1, 4, true⟩, ⟨6, 6, true⟩]) := by
  simp only [injectionMarks, RangesOk, List.filter, List.map]
  decide

/-! ## Explicit line joining (finding F33, repaired by 55c4b14) -/

/-- **C13 (rows not glued)** — FULL since repair 55c4b14. A token that starts on a later row than the
previous one ended while the logical line is still open (a backslash continuation: no NEWLINE / NL
token in between) is preceded by at least one space, whatever its column — column 0 included. -/
theorem C13_rows_not_glued (st : LoopState) (t : Token) (nx : Option Kind)
    (ho : st.lineOpen = true) (hr : t.srow > st.perow) : 0 < (step st t nx).2.pad := by
  -- the padding is the same in every branch of `step`
  simp only [step, apply_ite Prod.snd, apply_ite Emit.pad, ite_self, if_pos (And.intro hr ho)]
  omega

/-- The logical line is open exactly after a token that is neither NEWLINE nor NL (a dropped comment
leaves the flag as it was). -/
theorem C13_line_open (st : LoopState) (t : Token) (nx : Option Kind) :
    (step st t nx).1.lineOpen =
      if t.kind = .comment ∧ isHint t.str = false then st.lineOpen
      else !(t.kind == .newline || t.kind == .nl) := by
  simp only [step, apply_ite Prod.fst, apply_ite LoopState.lineOpen, ite_self, isHint, bne_eq_false_iff_eq]
  split <;> simp [*]

/-- `else \` / `second` at column 0: the former counter-example. -/
example : loopText [⟨.other, "else".toList, 1, 0, 1, 4⟩, ⟨.other, "second".toList, 2, 0, 2, 6⟩] =
    "else second".toList := by decide +kernel
/-- a token at column 0 after a NEWLINE gets no extra space -/
example : loopText [⟨.other, "x".toList, 1, 0, 1, 1⟩, ⟨.newline, "\n".toList, 1, 1, 1, 2⟩,
    ⟨.other, "y".toList, 2, 0, 2, 1⟩] = "x\ny".toList := by decide +kernel

/-- **C13 (idempotence of `suppress_blank_lines`).** -/
theorem C13_blank_pass_idempotent (t : Text) :
    suppressBlankLines (suppressBlankLines t) = suppressBlankLines t := by
  rw [suppressBlankLines, splitNl_suppressBlankLines, sblLines_idem]; rfl

/-- **C13 (idempotence of `suppress_useless_pass_statements`)** — FULL since repair 466f14f (findings
22 and 23): the regex looks ahead instead of consuming the next line's indentation. -/
theorem C13_pass_pass_idempotent (t : Text) :
    suppressUselessPass (suppressUselessPass t) = suppressUselessPass t := by
  rw [suppressUselessPass, splitNl_suppressUselessPass, supPassLines_idem]; rfl

example : suppressUselessPass "  pass\n  pass\n  x".toList = "  x".toList := by
  rw [String.toList_ofList, String.toList_ofList]
  decide +kernel
/-- finding 23: a hint comment line is not the sibling that makes a `pass` useless -/
example : suppressUselessPass "while x:\n    pass\n    # paroxython: foo".toList =
    "while x:\n    pass\n    # paroxython: foo".toList := by
  rw [String.toList_ofList]
  decide +kernel
example : suppressUselessPass "pass\n# paroxython: foo\nx".toList = "# paroxython: foo\nx".toList := by
  rw [String.toList_ofList, String.toList_ofList]
  decide +kernel

end Paroxy.Props.C13
