/-
C07 — Learning costs follow the longest imparted prefix and the current knowledge.

Exact rationals (`Rat`); see Model/Costs.lean for the float envelope. The model mirrors
assess_costs.py as repaired by the `fix:` commit 0eef720 (memo cleared when the knowledge is set;
the original code violated the history clause, known_findings.json F02).
-/
import Paroxy.Proofs.Prefixes
import Paroxy.Proofs.Costs
import Paroxy.Proofs.CostsShared
import Paroxy.Proofs.Imported
namespace Paroxy.Props.C07
open Paroxy Paroxy.Filter Paroxy.Costs

/-- A taxon that is imparted or lies under `meta/` costs 0 (both strategies). -/
theorem C07_taxon_zero (strat : Strategy) (K : List Codes) (t : Codes) (h : isMeta t = true ∨ t ∈ K) :
    taxonCost strat K t = 0 := by
  have h0 : rangeCost strat 0 0 = 0 := by cases strat <;> rfl
  unfold taxonCost
  by_cases hm : isMeta t = true
  · rw [if_pos hm]
  · rw [if_neg hm, if_pos (List.contains_iff_mem.mpr (h.resolve_left hm)), h0]

/-- Otherwise, with `d` its number of edges and `k` the length of its longest imparted proper
prefix (`IsLongest`, uniquely determined), the cost is the range cost of `[k, d)`. -/
theorem C07_taxon (strat : Strategy) (K : List Codes) (t : Codes) (hm : isMeta t = false) (hk : t ∉ K) :
    ∃ k, IsLongest K (splitOn 47 t) k ∧ (∀ k', IsLongest K (splitOn 47 t) k' → k' = k) ∧
      taxonCost strat K t = rangeCost strat k (splitOn 47 t).length := by
  obtain ⟨s1, s2, s3⟩ := findStart_spec K (splitOn 47 t) (splitOn 47 t).length
  have hpos := List.length_pos_iff.mpr (splitOn_ne_nil 47 t)
  have h1 : IsLongest K (splitOn 47 t) (findStart K (splitOn 47 t) (splitOn 47 t).length) :=
    ⟨by omega, s2, s3⟩
  refine ⟨_, h1, fun k' h' => isLongest_unique h' h1, ?_⟩
  simp [taxonCost, hm, hk]

/-- Zeno: the sum of `2^-(i+1)` for `i` in `k..d-1` … -/
theorem C07_zeno_sum (k d : Nat) :
    rangeCost .zeno k d = ((List.range' k (d - k)).map fun i => 1 / (2 : Rat) ^ (i + 1)).sum :=
  zeno_is_sum k d

/-- … which is `2^-k − 2^-d`. -/
theorem C07_zeno_closed (k n : Nat) :
    rangeCost .zeno k (k + n) = 1 / (2 : Rat) ^ k - 1 / (2 : Rat) ^ (k + n) := by
  rw [zeno_is_sum, Nat.add_sub_cancel_left, zeno_sum_closed]

/-- Linear: `d − k`. -/
theorem C07_linear (k d : Nat) : rangeCost .linear k d = ((d : Int) - (k : Int) : Int) := rfl

/-- A program's cost is the sum over the taxa of its record (which, after `add_imported_taxa`,
holds its own taxa and the non-`meta/` taxa of its imports). -/
theorem C07_program (strat : Strategy) (K : List Codes) (rec : TaxaSpans) :
    programCost strat K rec = (rec.map fun ts => taxonCost strat K ts.1).sum :=
  programCost_eq_sum strat K rec

/-- Programs are ranked by ascending `(cost, path)`: the result is sorted and is a permutation of
the selection paired with the program costs. -/
theorem C07_ranking (strat : Strategy) (progs : List (Codes × TaxaSpans)) (K sel : List Codes)
    (l : List (Rat × Codes)) (h : assess strat progs K sel = some l) :
    l.Pairwise (fun a b => leCostPath a b = true) ∧
    ∃ costs, sel.mapM (fun p => (dictGet? progs p).map fun rec => (programCost strat K rec, p)) = some costs ∧
      l.Perm costs := by
  rw [assess_eq] at h
  obtain ⟨costs, hm, rfl⟩ := Option.map_eq_some_iff.mp h
  exact ⟨List.pairwise_mergeSort leCostPath_trans leCostPath_total costs, costs, hm,
    List.mergeSort_perm costs leCostPath⟩

/-- What each operation returns when computed from scratch under knowledge `K`. -/
def pureOut (strat : Strategy) (progs : List (Codes × TaxaSpans)) (K : List Codes) : AOp → AOut
  | .setKnowledge _ => .unit
  | .taxonCost t => .cost (taxonCost strat K t)
  | .assess sel => .ranking (assess strat progs K sel)

/-- Run a sequence of operations on one assessor; returns, for every step, the knowledge current at
that step and the output. -/
def run (strat : Strategy) (progs : List (Codes × TaxaSpans)) : AState → List AOp → List (List Codes × AOp × AOut)
  | _, [] => []
  | s, op :: ops => (s.knowledge, op, (astep strat progs s op).2) :: run strat progs (astep strat progs s op).1 ops

theorem astep_spec (strat : Strategy) (progs : List (Codes × TaxaSpans)) (s : AState) (op : AOp)
    (h : MemoOk strat s) :
    (astep strat progs s op).2 = pureOut strat progs s.knowledge op ∧ MemoOk strat (astep strat progs s op).1 := by
  cases op with
  | setKnowledge K => exact ⟨rfl, MemoOk.nil strat K⟩
  | taxonCost t => exact ⟨congrArg AOut.cost (memoCost_spec strat s t h).1, (memoCost_spec strat s t h).2⟩
  | assess sel =>
    refine ⟨?_, (memoAssess_spec strat progs sel s h).2⟩
    show AOut.ranking _ = AOut.ranking _
    rw [(memoAssess_spec strat progs sel s h).1, assess_eq]

/-- **History independence.** Whatever sequence of `set_imparted_knowledge`, `taxon_cost` and
assessments is applied to one assessor, every output equals the pure function of the imparted
knowledge at the time it is made — whatever was assessed before. -/
theorem C07_history (strat : Strategy) (progs : List (Codes × TaxaSpans)) (K0 : List Codes) (ops : List AOp) :
    ∀ e ∈ run strat progs { knowledge := K0, memo := [] } ops, e.2.2 = pureOut strat progs e.1 e.2.1 := by
  suffices ∀ s, MemoOk strat s → ∀ e ∈ run strat progs s ops, e.2.2 = pureOut strat progs e.1 e.2.1 from
    this _ (MemoOk.nil strat K0)
  induction ops with
  | nil => intro s _ e he; cases he
  | cons op t ih =>
    intro s hs e he
    obtain ⟨h1, h2⟩ := astep_spec strat progs s op hs
    rcases List.mem_cons.mp he with rfl | he
    · exact h1
    · exact ih _ h2 e he

/-- The knowledge current at each step is the last one set (or the initial one). -/
theorem C07_knowledge_current (strat : Strategy) (progs : List (Codes × TaxaSpans)) (s : AState) (op : AOp) :
    (astep strat progs s op).1.knowledge =
      match op with
      | .setKnowledge K => K
      | _ => s.knowledge := by
  cases op with
  | setKnowledge K => rfl
  | taxonCost t => exact memoCost_knowledge strat s t
  | assess sel => exact memoAssess_knowledge strat progs sel s

/-- Costs depend on the knowledge *as a set* only (with C06: not on the order of the commands). -/
theorem C07_knowledge_as_set (strat : Strategy) (K K' : List Codes) (h : ∀ t, t ∈ K ↔ t ∈ K') (t : Codes) :
    taxonCost strat K t = taxonCost strat K' t :=
  taxonCost_congr strat K K' h t

-- Non-vacuity: with knowledge {a, a/b}, the taxon a/b/c has k = 2, d = 3 and costs 1/8.
example : taxonCost .zeno [codesOf "a", codesOf "a/b"] (codesOf "a/b/c") = 1 / 8 := by decide +kernel
example : IsLongest [codesOf "a", codesOf "a/b"] (splitOn 47 (codesOf "a/b/c")) 2 := by
  refine ⟨by decide +kernel, Or.inr (by decide +kernel), fun s h1 h2 => ?_⟩
  have : (splitOn 47 (codesOf "a/b/c")).length = 3 := by decide +kernel
  omega

/-- The records `programCost` sums over (`C07_program`): on a well-formed stored database,
`add_imported_taxa` succeeds and the record of every program `p` then has pairwise distinct taxa,
which are exactly its own taxa and the non-`meta/` taxa of the programs it imports, directly or
not (`db.Exp p q`: `p` is listed in `exportations[q]`, which stores the transitive closure). -/
theorem C07_program_taxa (db : DB) (wf : db.WF) :
    ∃ progs, addImported db = some progs ∧
      ∀ p rec', dictGet? progs p = some rec' → ∃ rec, dictGet? db.programs p = some rec ∧
        (rec'.map (·.1)).Nodup ∧
        ∀ t, t ∈ rec'.map (·.1) ↔ t ∈ rec.map (·.1) ∨
          (isMeta t = false ∧ ∃ q recq, db.Exp p q ∧ dictGet? db.programs q = some recq ∧
            t ∈ recq.map (·.1)) :=
  let ⟨progs, h1, _, _, h4⟩ := addImported_spec db wf ⟨fun _ _ => false, fun _ _ => false⟩
  ⟨progs, h1, fun p rec' h => let ⟨rec, e, _, nd, ht⟩ := h4 p rec' h; ⟨rec, e, nd, ht⟩⟩

-- Non-vacuity: in `exampleDB` (two programs, `b.py` imports `a.py`, which features `x` and
-- `meta/m`; `exampleDB_wf : exampleDB.WF`) the record of `b.py` becomes `{y, x}`: with nothing
-- imparted, its linear cost is 2 (1 for `y`, 1 for the imported `x`, nothing for `meta/m`).
example : ∃ progs, addImported exampleDB = some progs ∧
    ((dictGet? progs [98, 46, 112, 121]).map fun rec => rec.map (·.1)) = some [[121], [120]] ∧
    ((dictGet? progs [98, 46, 112, 121]).map (programCost .linear [])) = some 2 := by
  obtain ⟨progs, h, _⟩ := C07_program_taxa exampleDB exampleDB_wf
  exact ⟨progs, h, by cases h; decide +kernel, by cases h; decide +kernel⟩

/-! ### One recommender: `run_pipeline` called any number of times -/

/-- `Recommendations.run_pipeline`: the commands update the filter, then
`self.assess.set_imparted_knowledge(self.imparted_knowledge)` and
`self.assessed_programs = self.assess(self.selected_programs)` — on the SAME memoised assessor as
the previous calls. Returns the new filter state, the new assessor state and the ranking. -/
def recRun (c : Ctx) (r : Relations) (strat : Strategy) (st : State) (a : AState) (cmds : List Command) :
    Except Err (State × AState × AOut) :=
  match runPipeline c r st cmds with
  | .error e => .error e
  | .ok st' =>
    let a1 := (astep strat c.programs a (.setKnowledge st'.knowledge)).1
    let out := astep strat c.programs a1 (.assess st'.selected)
    .ok (st', out.1, out.2)

/-- **Every assessment of a recommender reflects the knowledge and the selection of its filter at
that time**, whatever the earlier `run_pipeline` calls assessed and cached: from ANY assessor state
(any memo left by earlier runs), the ranking a `run_pipeline` call stores is the pure assessment of
the selection it leaves, under the knowledge it leaves. (`set_imparted_knowledge` is called before
every assessment: the in-place mutation of the knowledge set shared with the filter, which
`update_filter` performs, is never observed by the assessor without it. `recRun` has no such step; the
shared set, and a direct `update_filter` followed by `assess` without `run_pipeline`, are the subject of
the `C07_shared_*` theorems below.) -/
theorem C07_recommender (c : Ctx) (r : Relations) (strat : Strategy) (st st' : State) (a a' : AState)
    (cmds : List Command) (out : AOut) (h : recRun c r strat st a cmds = .ok (st', a', out)) :
    runPipeline c r st cmds = .ok st' ∧
    out = .ranking (assess strat c.programs st'.knowledge st'.selected) ∧
    a'.knowledge = st'.knowledge ∧ MemoOk strat a' := by
  unfold recRun at h
  cases hr : runPipeline c r st cmds with
  | error e => rw [hr] at h; cases h
  | ok sm =>
    rw [hr] at h
    simp only [Except.ok.injEq, Prod.mk.injEq] at h
    obtain ⟨rfl, rfl, rfl⟩ := h
    obtain ⟨e1, e2⟩ := astep_spec strat c.programs _ (.assess sm.selected) (MemoOk.nil strat sm.knowledge)
    exact ⟨rfl, e1, C07_knowledge_current strat c.programs _ _, e2⟩

/-! ### The knowledge set SHARED with the filter and mutated in place

`SState` (Model/CostsShared.lean): a heap of set objects, the address the assessor holds, the memo.
`mutateKnowledge addr add del` changes an object in place without telling the assessor; only
`setKnowledge` (and, the `lru_cache` being one per class, `foreignClear`: another instance constructed
or set) clears the memo. `e.1` in a run is the knowledge the assessor READS at that step: the content
of the pointed-to object then, in-place changes included. -/

/-- An in-place change of the pointed-to object is observed at once (the knowledge read is the new
content), and the memo is left as it is; a change of any other object is not observed. -/
theorem C07_shared_mutation (strat : Strategy) (progs : List (Codes × TaxaSpans)) (s : SState) (a : Nat)
    (add del : List Codes) :
    (sstep strat progs s (.mutateKnowledge a add del)).1.memo = s.memo ∧
    (sstep strat progs s (.mutateKnowledge a add del)).1.ptr = s.ptr ∧
    (sstep strat progs s (.mutateKnowledge a add del)).1.knowledge =
      if a = s.ptr then mutateSet s.knowledge add del else s.knowledge := by
  refine ⟨rfl, rfl, ?_⟩
  simp only [sstep, SState.knowledge, heapGet_heapSet]
  split
  · rename_i h; subst h; rfl
  · rfl

/-- **Exact characterisation of the memo.** For EVERY sequence of operations (in-place mutations
included), the memoised assessor returns, step by step, exactly what the snapshot machine returns:
the cost of a taxon is its pure cost under the knowledge AS IT WAS when that taxon was first costed
(by `taxon_cost` or inside an assessment) since the memo was last cleared (`gCost`: a taxon without
snapshot is costed under the current knowledge, which becomes its snapshot; a taxon with a snapshot is
costed under it; `setKnowledge` / `foreignClear` drop all snapshots; nothing else touches them). -/
theorem C07_shared_stale_characterised (strat : Strategy) (progs : List (Codes × TaxaSpans)) (h : Heap) (p : Nat)
    (ops : List SOp) :
    srun strat progs { heap := h, ptr := p, memo := [] } ops =
      grun strat progs { heap := h, ptr := p, snap := [] } ops :=
  srun_grun strat progs ops ⟨h, p, []⟩

/-- Reading of the snapshot machine, `taxon_cost`: the value returned is the pure cost under the
taxon's snapshot if it has one, under the current knowledge otherwise — and in the latter case the
current knowledge is recorded; an existing snapshot is never replaced. -/
theorem C07_shared_snapshot_cost (strat : Strategy) (progs : List (Codes × TaxaSpans)) (g : GState) (t : Codes) :
    (gstep strat progs g (.taxonCost t)).2 = .cost (taxonCost strat (snapOf g.snap g.knowledge t) t) ∧
    dictGet? (gstep strat progs g (.taxonCost t)).1.snap t = some (snapOf g.snap g.knowledge t) ∧
    ∀ t' K0, dictGet? g.snap t' = some K0 → dictGet? (gstep strat progs g (.taxonCost t)).1.snap t' = some K0 := by
  refine ⟨rfl, ?_, (gCost_ext strat g.knowledge g.snap t).1⟩
  simp only [gstep, gCost, snapOf]
  cases hg : dictGet? g.snap t with
  | some K0 => simp only [hg]
  | none => exact (dictGet?_append_single ..).mpr (Or.inr ⟨hg, rfl, rfl⟩)

/-- The life of the snapshots, for every step: `set_imparted_knowledge` and a foreign clear drop them all; an
in-place mutation leaves them as they are (that is the staleness); a `taxon_cost` or a whole assessment
only EXTENDS them (`SnapExt`): no recorded snapshot is replaced, and every new one records the knowledge
read at that step. -/
theorem C07_shared_snapshots (strat : Strategy) (progs : List (Codes × TaxaSpans)) (g : GState) (op : SOp) :
    match op with
    | .setKnowledge _ => (gstep strat progs g op).1.snap = []
    | .foreignClear => (gstep strat progs g op).1.snap = []
    | .mutateKnowledge _ _ _ => (gstep strat progs g op).1.snap = g.snap
    | .taxonCost _ => SnapExt g.knowledge g.snap (gstep strat progs g op).1.snap
    | .assess _ => SnapExt g.knowledge g.snap (gstep strat progs g op).1.snap := by
  cases op with
  | setKnowledge a => rfl
  | foreignClear => rfl
  | mutateKnowledge a add del => rfl
  | taxonCost t => exact gCost_ext strat g.knowledge g.snap t
  | assess sel => exact gAssess_ext strat progs g.knowledge sel g.snap

/-- **Any disciplined history is sound**: if no cost is asked while the pointed-to object has been
changed in place since the last `set_imparted_knowledge` (`disciplined`), every output is the pure
function of the knowledge read at that step. -/
theorem C07_shared_disciplined_sound (strat : Strategy) (progs : List (Codes × TaxaSpans)) (s : SState)
    (hs : MemoOk strat s.view) (ops : List SOp) (hd : disciplined s.ptr false ops = true) :
    ∀ e ∈ srun strat progs s ops, e.2.2 = pureOutS strat progs e.1 e.2.1 :=
  disciplined_sound strat progs ops s false (fun _ => hs) hd

/-- **`run_pipeline`, any number of times, in-place mutation included.** From ANY state (any stale memo,
any pointer), every history made of rounds «the filter grows ITS knowledge set in place any number of
times; `set_imparted_knowledge(that set)`; assess a selection; any `taxon_cost` queries» returns, at
every step, the pure costs / ranking under the knowledge current at that step. -/
theorem C07_shared_run_pipeline_sound (strat : Strategy) (progs : List (Codes × TaxaSpans)) (s : SState)
    (addr : Nat) (rounds : List Round) :
    ∀ e ∈ srun strat progs s (pipelineOps addr rounds), e.2.2 = pureOutS strat progs e.1 e.2.1 :=
  disciplined_sound strat progs _ s true (fun h => by cases h) (pipelineOps_disciplined addr rounds s.ptr true)

/-- The program `p.py` featuring the taxon `a/b`. -/
def witnessProgs : List (Codes × TaxaSpans) := [(codesOf "p.py", [(codesOf "a/b", [])])]

/-- set; assess; the filter imparts `a/b` in place; assess again WITHOUT `set_imparted_knowledge`. -/
def witnessOps : List SOp :=
  [.setKnowledge 0, .assess [codesOf "p.py"], .mutateKnowledge 0 [codesOf "a", codesOf "a/b"] [], .assess [codesOf "p.py"]]

/-- **The gap of §11.6, exactly.** `update_filter` (impart `a/b`) followed by `assess` WITHOUT the
`set_imparted_knowledge` that `run_pipeline` interposes: the second assessment still returns 3/4 for
`p.py`, although the knowledge it reads now contains `a/b` (pure cost 0). The history is not
`disciplined`. -/
theorem C07_shared_direct_update_stale :
    (srun .zeno witnessProgs { heap := [], ptr := 0, memo := [] } witnessOps).map (fun e => e.2.2.costs) =
      [[], [3 / 4], [], [3 / 4]] ∧
    (srun .zeno witnessProgs { heap := [], ptr := 0, memo := [] } witnessOps).map
      (fun e => (pureOutS .zeno witnessProgs e.1 e.2.1).costs) = [[], [3 / 4], [], [0]] ∧
    disciplined 0 false witnessOps = false := by
  decide +kernel

-- Non-vacuity. `C07_shared_disciplined_sound`: an empty memo is `MemoOk`, and a history with an in-place
-- mutation FOLLOWED by a set is disciplined; so is one mutating an object the assessor does not point to.
example : MemoOk .zeno ({ heap := [], ptr := 0, memo := [] } : SState).view := fun t v hv => by cases hv
example : disciplined 0 false [.taxonCost [97], .mutateKnowledge 0 [[97]] [], .setKnowledge 0, .taxonCost [97]] = true := by
  decide
example : disciplined 0 false [.taxonCost [97], .mutateKnowledge 1 [[97]] [], .taxonCost [97]] = true := by decide
-- `C07_shared_run_pipeline_sound`: two rounds on the witness program; the second imparts `a/b` in place:
-- the costs are 3/4 then 0 (the run_pipeline discipline repairs the witness above).
example : (srun .zeno witnessProgs { heap := [], ptr := 0, memo := [] }
      (pipelineOps 0 [⟨[], [codesOf "p.py"], [codesOf "a/b"]⟩,
                      ⟨[[codesOf "a", codesOf "a/b"]], [codesOf "p.py"], [codesOf "a/b"]⟩])).map (fun e => e.2.2.costs) =
    [[], [3 / 4], [3 / 4], [], [], [0], [0]] := by decide +kernel
-- `C07_shared_stale_characterised` / `C07_shared_snapshot_cost`: after the witness history the snapshot
-- of `a/b` is the EMPTY knowledge of its first costing, not the current one.
example : snapOf [(codesOf "a/b", [])] [codesOf "a", codesOf "a/b"] (codesOf "a/b") = [] := by decide +kernel

end Paroxy.Props.C07
