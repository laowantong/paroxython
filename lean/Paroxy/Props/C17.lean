/-
C17 — The recommendation report shows exactly the filter's result.

Theorems about the STRUCTURED report of Model/Report.lean (`body`, `summary`, `stdoutSelection`),
for every input (assessed list, hidden sets, records, strategies). The harness parses the real
Markdown back into this structure. Then the TEXT of the Location cell (Model/ReportCell.lean); last section: the TEXT of the
whole body, line by line (Model/ReportText.lean), and the proof that the structure is read back from it.
-/
import Paroxy.Proofs.Report
import Paroxy.Proofs.ReportOrder
import Paroxy.Proofs.Recommend
import Paroxy.Proofs.ReportCell
import Paroxy.Proofs.ReportCellUnwrap
import Paroxy.Proofs.ReportText
import Paroxy.Props.C07
namespace Paroxy.Props.C17
open Paroxy Paroxy.Filter Paroxy.Costs Paroxy.Report Paroxy.ReportCell Paroxy.ReportText

/-- **Membership.** The report lists each assessed (= selected), non-hidden program exactly once
and no other program: the listed `(cost, path)` pairs are a permutation of the visible ones. -/
theorem C17_membership (i : Input) (b : List (Bucket × List Section)) (h : body i = some b) :
    (b.flatMap fun g => g.2.map fun s => (s.cost, s.path)).Perm
      (i.assessed.filter fun cp => !i.hiddenPrograms.contains cp.2) :=
  (body_spec i b h).1

/-- **Bucket.** Every program is listed under the heading `cost_bucket(cost)`, … -/
theorem C17_bucket (i : Input) (hg : i.grouping = true) (b : List (Bucket × List Section)) (h : body i = some b)
    (g : Bucket × List Section) (hgm : g ∈ b) (s : Section) (hs : s ∈ g.2) : g.1 = costBucket s.cost := by
  have := ((body_spec i b h).2.1 g hgm s hs).1
  simpa [groupKey, hg] using this.symm

/-- … whose interval contains the cost (costs are non-negative). -/
theorem C17_bucket_contains (c : Rat) (h : 0 ≤ c) : (costBucket c).Contains c :=
  costBucket_contains c h

/-- **Order inside a heading.** Sections are sorted by the chosen key: non-decreasing
`(cost, sloc)`, or increasing path under the lexicographic strategy. -/
theorem C17_order (i : Input) (b : List (Bucket × List Section)) (h : body i = some b)
    (g : Bucket × List Section) (hgm : g ∈ b) :
    (g.2.map fun s => (s.cost, s.path)).Pairwise fun x y => leMember i.sorting i.sloc x y = true :=
  (body_spec i b h).2.2 g hgm

/-- **Rows.** A program's table lists exactly the taxa of its record that are not hidden, each with
the spans of the record (an empty list is rendered `_imported_`) and the assessed taxon cost. -/
theorem C17_rows (i : Input) (b : List (Bucket × List Section)) (h : body i = some b)
    (g : Bucket × List Section) (hgm : g ∈ b) (s : Section) (hs : s ∈ g.2) :
    ∃ rec, dictGet? i.programs s.path = some rec ∧ ∀ r : Row, r ∈ s.rows ↔
      (r.taxon, r.spans) ∈ rec ∧ r.taxon ∉ i.hiddenTaxa ∧ r.cost = taxonCost i.strat i.knowledge r.taxon := by
  obtain ⟨rec, hr, hrows⟩ := ((body_spec i b h).2.1 g hgm s hs).2
  exact ⟨rec, hr, fun r => by rw [hrows]; exact mem_rowsOf ..⟩

/-- **Total.** When the assessed list is what `assess` returns, the cost stated for a program is the
sum over ALL the taxa of its record, hidden ones included. -/
theorem C17_total (i : Input) (sel : List Codes) (ha : assess i.strat i.programs i.knowledge sel = some i.assessed)
    (b : List (Bucket × List Section)) (h : body i = some b)
    (g : Bucket × List Section) (hgm : g ∈ b) (s : Section) (hs : s ∈ g.2) :
    ∃ rec, dictGet? i.programs s.path = some rec ∧
      s.cost = (rec.map fun ts => taxonCost i.strat i.knowledge ts.1).sum := by
  obtain ⟨rec, hd, hc⟩ := (assess_spec _ _ _ _ _ ha).2 _ (section_assessed i b h g hgm s hs)
  exact ⟨rec, hd, hc.trans (programCost_eq_sum ..)⟩

/-- **Summary.** Whatever commands are run by one or several `run_pipeline` calls on a recommender
with `N` programs, the count announced after each logged command (`N` minus everything filtered out
so far) is the size of the selection right after that command. -/
theorem C17_summary (c : Ctx) (r : Relations) (cmds : List Command) (st st' : State) (log0 log' : List LogEntry)
    (N idx : Nat)
    (h : runLogged.go c r st st.selected idx cmds log0 = .ok (st', log'))
    (h1 : (N : Int) - (removedTotal log0 : Nat) = st.selected.length)
    (h2 : ∀ k (hk : k < log0.length), (N : Int) - (removedTotal (log0.take (k + 1)) : Nat) = log0[k].selectedAfter) :
    (∀ k (hk : k < log'.length), ((summary N log')[k]?.map (·.1)) = some (log'[k].selectedAfter : Int)) ∧
      (N : Int) - (removedTotal log' : Nat) = st'.selected.length := by
  obtain ⟨a, b⟩ := go_spec c r N cmds st idx log0 st' log' h h1 h2
  refine ⟨fun k hk => ?_, a⟩
  rw [summary_spec]
  simp [hk, b k hk]

/-- … in particular for a fresh recommender and a single call (`N` = number of programs). -/
theorem C17_summary_fresh (c : Ctx) (r : Relations) (cmds : List Command) (st st' : State) (log' : List LogEntry)
    (h : runLogged c r st cmds = .ok (st', log')) :
    ∀ k (hk : k < log'.length),
      ((summary st.selected.length log')[k]?.map (·.1)) = some (log'[k].selectedAfter : Int) :=
  (C17_summary c r cmds st st' [] log' st.selected.length 1 h (by simp [removedTotal])
    (fun k hk => by simp at hk)).1

/-- **`-o stdout`.** Exactly the selected, non-hidden paths. -/
theorem C17_stdout (st : State) (p : Codes) :
    p ∈ stdoutSelection st ↔ p ∈ st.selected ∧ p ∉ st.hiddenPrograms := by
  simp [stdoutSelection, List.mem_filter]

/-- **Order across the whole listing.** Under `by_cost_and_sloc`, when the assessed list is sorted by
non-decreasing, non-negative cost (which is what `assess` returns: `C07_ranking`, `programCost_nonneg`),
the costs of ALL the sections of the report, read top to bottom across the headings, are
non-decreasing — with `by_cost_bucket` grouping (the buckets appear in increasing order since
`cost_bucket` is monotone) as well as without grouping (a single heading). -/
theorem C17_order_across (i : Input) (hs : i.sorting = .byCostAndSloc)
    (hsorted : i.assessed.Pairwise (fun a b => a.1 ≤ b.1))
    (hnonneg : ∀ cp ∈ i.assessed, 0 ≤ cp.1)
    (b : List (Bucket × List Section)) (h : body i = some b) :
    (b.flatMap fun g => g.2.map fun s => s.cost).Pairwise (· ≤ ·) :=
  body_costs_sorted i hs hsorted hnonneg b h

/-- … in particular when the assessed list is the one `assess` returns for some selection. -/
theorem C17_order_across_assess (i : Input) (hs : i.sorting = .byCostAndSloc) (sel : List Codes)
    (ha : assess i.strat i.programs i.knowledge sel = some i.assessed)
    (b : List (Bucket × List Section)) (h : body i = some b) :
    (b.flatMap fun g => g.2.map fun s => s.cost).Pairwise (· ≤ ·) := by
  refine C17_order_across i hs ((C07.C07_ranking _ _ _ _ _ ha).1.imp fun {x y} hxy => ?_) (fun cp hcp => ?_) b h
  · simp only [leCostPath, Bool.or_eq_true, Bool.and_eq_true, decide_eq_true_eq] at hxy
    rcases hxy with hlt | ⟨he, _⟩
    · exact Rat.le_of_lt hlt
    · rw [he]; exact Rat.le_refl
  · obtain ⟨rec, _, hc⟩ := (assess_spec _ _ _ _ _ ha).2 cp hcp
    rw [hc]
    exact programCost_nonneg i.strat i.knowledge rec

-- Non-vacuity: three programs of costs 0, 1/2, 5/4 (what `assess` returns for them), listed under
-- three headings (resp. one heading without grouping); all the hypotheses hold.
-- (`mergeSort` does not reduce in the kernel, hence `mergeSort_of_pairwise` / `body_of_presorted`.)
example : (exampleInput true).sorting = .byCostAndSloc ∧
    (exampleInput true).assessed.Pairwise (fun a b => a.1 ≤ b.1) ∧
    (∀ cp ∈ (exampleInput true).assessed, 0 ≤ cp.1) := by decide +kernel
example : assess (exampleInput true).strat (exampleInput true).programs (exampleInput true).knowledge
    [codesOf "c.py", codesOf "a.py", codesOf "b.py"] = some (exampleInput true).assessed := by
  have hm : [codesOf "c.py", codesOf "a.py", codesOf "b.py"].mapM (fun p =>
      (dictGet? (exampleInput true).programs p).map fun rec =>
        (programCost (exampleInput true).strat (exampleInput true).knowledge rec, p)) =
      some (exampleInput true).assessed := by decide +kernel
  unfold assess
  rw [hm]
  simp only [bind, Option.bind, pure]
  rw [List.mergeSort_of_pairwise (by decide +kernel)]
example : (body (exampleInput true)).map listing =
    some [(.zero, [(0, codesOf "c.py")]), (.q3, [(1 / 2, codesOf "a.py")]), (.pow 1, [(5 / 4, codesOf "b.py")])] := by
  rw [body_of_presorted _ (by decide +kernel)]
  decide +kernel
example : (body (exampleInput false)).map listing =
    some [(.noGroup, [(0, codesOf "c.py"), (1 / 2, codesOf "a.py"), (5 / 4, codesOf "b.py")])] := by
  rw [body_of_presorted _ (by decide +kernel)]
  decide +kernel

/-- **End to end.** For one recommender — `Recommendations(db)`, any number of `run_pipeline` calls,
then `get_markdown` — with every database, oracle, strategy and option: when a report is produced,
(1) the filter state it is built from is the one the concatenated commands compute (C04–C06 describe it);
(2) the listed programs are exactly the selected, non-hidden ones of that state, each as often as it
    is selected (once: the selection has no duplicates, `C17_listed_once`);
(3) every section is under `cost_bucket(cost)`, its stated cost is the sum of the taxon costs of the
    whole record of the program under the FINAL knowledge, and its table lists exactly the non-hidden
    taxa of that record with their spans and that taxon cost. -/
theorem C17_end_to_end (c : Ctx) (r : Relations) (strat : Strategy) (sloc : Codes → Nat) (sorting : Sorting)
    (grouping : Bool) (runs : List (List Command)) (rep : Recommendation)
    (h : recommend c r strat sloc sorting grouping runs = .ok rep) :
    runPipeline c r (initState c.programs) runs.flatten = .ok rep.final ∧
    (rep.body.flatMap fun g => g.2.map (·.path)).Perm
      (rep.final.selected.filter fun p => !rep.final.hiddenPrograms.contains p) ∧
    ∀ g ∈ rep.body, ∀ s ∈ g.2, ∃ rec, dictGet? c.programs s.path = some rec ∧
      (grouping = true → g.1 = costBucket s.cost) ∧
      s.cost = (rec.map fun ts => taxonCost strat rep.final.knowledge ts.1).sum ∧
      ∀ row : Row, row ∈ s.rows ↔ (row.taxon, row.spans) ∈ rec ∧ row.taxon ∉ rep.final.hiddenTaxa ∧
        row.cost = taxonCost strat rep.final.knowledge row.taxon := by
  unfold recommend at h
  split at h
  · cases h
  · rename_i st log hr
    split at h
    · cases h
    · rename_i assessed ha
      split at h
      · cases h
      · rename_i b hb
        cases h
        -- the input of `body` is named before the lemmas about it are applied: they then unify at once
        generalize hi : (⟨strat, c.programs, sloc, st.knowledge, st.hiddenTaxa, st.hiddenPrograms, assessed, sorting,
          grouping⟩ : Input) = i at hb
        have ha' : assess i.strat i.programs i.knowledge st.selected = some i.assessed := by subst hi; exact ha
        refine ⟨runsLogged_state c r runs _ [] st log hr, ?_, ?_⟩
        · have hm := (C17_membership i b hb).map (·.2)
          have hf := (assess_spec strat c.programs st.knowledge st.selected assessed ha).1.filter
            fun p => !st.hiddenPrograms.contains p
          subst hi
          simp only [List.map_flatMap, List.map_map] at hm
          rw [List.filter_map] at hf
          exact hm.trans hf
        · intro g hg s hs
          obtain ⟨rec, hrec, hrows⟩ := C17_rows i b hb g hg s hs
          obtain ⟨rec', hrec', hcost⟩ := C17_total i st.selected ha' b hb g hg s hs
          cases hrec'.symm.trans hrec
          subst hi
          exact ⟨rec, hrec, fun hgr => C17_bucket _ hgr b hb g hg s hs, hcost, hrows⟩

/-- … and each listed program appears once: the selection of a well-formed database has no duplicate,
and commands only ever remove programs. -/
theorem C17_listed_once (c : Ctx) (r : Relations) (strat : Strategy) (sloc : Codes → Nat) (sorting : Sorting)
    (grouping : Bool) (runs : List (List Command)) (rep : Recommendation)
    (hn : (c.programs.map (·.1)).Nodup)
    (h : recommend c r strat sloc sorting grouping runs = .ok rep) :
    (rep.body.flatMap fun g => g.2.map (·.path)).Nodup := by
  obtain ⟨h1, h2, _⟩ := C17_end_to_end c r strat sloc sorting grouping runs rep h
  refine h2.nodup_iff.mpr (List.Nodup.sublist List.filter_sublist ?_)
  exact List.Nodup.sublist (runPipeline_sublist c r _ _ _ h1) hn

/-- **Headings in increasing cost order, under BOTH sorting strategies.** With `by_cost_bucket`
grouping, when the assessed list is sorted by non-negative cost (what `assess` returns), every
program listed under an earlier heading costs strictly less than every program under a later one —
also under the lexicographic strategy, where the order INSIDE a heading is by path (`C17_order`). -/
theorem C17_headings_increasing (i : Input) (hg : i.grouping = true)
    (hsorted : i.assessed.Pairwise (fun a b => a.1 ≤ b.1)) (hnonneg : ∀ cp ∈ i.assessed, 0 ≤ cp.1)
    (b : List (Bucket × List Section)) (h : body i = some b) :
    b.Pairwise fun g1 g2 => ∀ s1 ∈ g1.2, ∀ s2 ∈ g2.2, s1.cost < s2.cost := by
  refine (body_keys_strict i hsorted hnonneg b h).imp_of_mem ?_
  intro g1 g2 hg1 hg2 hr s1 hs1 s2 hs2
  rw [C17_bucket i hg b h g1 hg1 s1 hs1, C17_bucket i hg b h g2 hg2 s2 hs2] at hr
  refine Rat.not_le.mp fun hge => ?_
  exact absurd (costBucket_rank_mono (hnonneg _ (section_assessed i b h g2 hg2 s2 hs2)) hge) (Nat.not_le.mpr hr)

/-- **A report is always produced.** Whenever the commands are accepted (no rejected predicate string:
`runPipeline` on the concatenated commands succeeds — `C04_error` says exactly when), `recommend` returns a
report: no `KeyError` can come from the assessment or from the rendering loop, for any database, oracle,
strategy and option. (This is also the non-vacuity of `C17_end_to_end`: with no command at all there is
always a report, listing every program of the database.) -/
theorem C17_report_total (c : Ctx) (r : Relations) (strat : Strategy) (sloc : Codes → Nat) (sorting : Sorting)
    (grouping : Bool) (runs : List (List Command)) (st : State) (log : List LogEntry)
    (h : runsLogged c r (initState c.programs) [] runs = .ok (st, log)) :
    ∃ rep, recommend c r strat sloc sorting grouping runs = .ok rep ∧ rep.final = st ∧ rep.log = log := by
  have hsub := runPipeline_sublist c r runs.flatten (initState c.programs) st
    (runsLogged_state c r runs _ [] st log h)
  have hsel : ∀ p ∈ st.selected, p ∈ c.programs.map (·.1) := fun p hp => hsub.subset hp
  obtain ⟨assessed, ha⟩ := assess_total strat c.programs st.knowledge st.selected hsel
  have hass : ∀ cp ∈ assessed, cp.2 ∈ c.programs.map (·.1) := by
    intro cp hcp
    have := (assess_spec strat c.programs st.knowledge st.selected assessed ha).1
    exact hsel cp.2 (this.mem_iff.mp (List.mem_map_of_mem hcp))
  obtain ⟨b, hb⟩ := body_total ⟨strat, c.programs, sloc, st.knowledge, st.hiddenTaxa, st.hiddenPrograms, assessed,
    sorting, grouping⟩ hass
  refine ⟨⟨b, log, st, assessed⟩, ?_, rfl, rfl⟩
  unfold recommend
  rw [h]
  simp only [ha, hb]

example (c : Ctx) (r : Relations) (strat : Strategy) (sloc : Codes → Nat) (sorting : Sorting) (grouping : Bool) :
    ∃ rep, recommend c r strat sloc sorting grouping [] = .ok rep ∧ rep.final = initState c.programs :=
  let ⟨rep, h1, h2, _⟩ := C17_report_total c r strat sloc sorting grouping [] (initState c.programs) [] rfl
  ⟨rep, h1, h2⟩

/-! ### The text of the Location cell (Model/ReportCell.lean: `couple_to_string`, `", ".join`,
`enumeration_to_txt_factory(width, "_imported_")` with its `textwrap.wrap`) -/

/-- **The Location cell loses nothing.** For every column width ≥ 1 and every list of spans of natural
numbers (any length, any magnitudes — numbers longer than the column, which `textwrap` cuts in the
middle or after their hyphen, included), reading the rendered cell back (`parseCell`: delete the tags,
split on commas and spaces, read `a` / `a-b`) gives exactly the spans of the row.
(With a reader that takes `<br>` for a separator the statement is false for numbers longer than the
line: see the example `12345678901` below; `parseCell` therefore deletes `<br>`.) -/
theorem C17_cell_roundtrip (width : Nat) (hw : 0 < width) (spans : List Span)
    (hn : ∀ sp ∈ spans, 0 ≤ sp.1 ∧ 0 ≤ sp.2) : parseCell (renderCell width spans) = some spans :=
  parse_render width hw spans hn

/-- The empty span list (an imported taxon) is rendered `_imported_`, for every width … -/
theorem C17_cell_imported (width : Nat) : renderCell width [] = "_imported_".toList := rfl

/-- … and no other list is: a row with spans never reads `_imported_`. -/
theorem C17_cell_not_imported (width : Nat) (spans : List Span) (hne : spans ≠ [])
    (hn : ∀ sp ∈ spans, 0 ≤ sp.1 ∧ 0 ≤ sp.2) : renderCell width spans ≠ "_imported_".toList := by
  obtain ⟨ps, rfl⟩ := exists_toSpan spans hn
  cases ps with
  | nil => exact absurd rfl hne
  | cons p t => exact render_ne_imported width p t

/-- **Wrapping only deletes spaces and cuts lines.** For every width ≥ 1 and every text that does not
start with a space, the contents of the lines of `textwrap.wrap(s, width, initial_indent="   ")`, put
end to end, are `s` with some spaces deleted (`SpDel`): no other character is lost, added or moved —
long-word cuts included. -/
theorem C17_cell_wrap_keeps_text (width : Nat) (hw : 0 < width) (s : Str) (h : ∀ x t, s = x :: t → x ≠ ' ') :
    SpDel s (wrapContents width 3 s).flatten :=
  wrapContents_spdel width 3 hw s h

/-- The statement of `C17_cell_unwrap` below (also compared by the harness stream `cell`, key `unwrap`):
when no chunk of the enumeration is longer than the first line (`width - 3`), wrapping replaces single
spaces by line breaks and does nothing else — the lines joined by one space are the enumeration.
What holds for every width, long words included, is `C17_cell_wrap_keeps_text` (only spaces are deleted)
and, through it, `C17_cell_roundtrip`. Without the hypothesis the statement is false: see the example below. -/
def C17_cell_unwrap_statement : Prop :=
  ∀ (width : Nat) (spans : List Span), (∀ sp ∈ spans, 0 ≤ sp.1 ∧ 0 ≤ sp.2) →
    chunksWithin (width - 3) (joinSpans spans) = true →
    unwrap (wrapContents width 3 (joinSpans spans)) = joinSpans spans

/-- **Wrapping replaces single spaces by line breaks and does nothing else** when no chunk of the
enumeration (`a,` / `a-b,`) is longer than the first line: for every column width and every list of
spans of natural numbers, the lines of `textwrap.wrap` joined by ONE space are the enumeration.
It rests on the description of `fill` on an alternating word / space chunk list (no long-word cut then
happens; each line ends before a space, which is the only thing dropped): `fill_alt` / `step_alt` /
`wrapLoop_alt` of Proofs/ReportCellUnwrap.lean. -/
theorem C17_cell_unwrap : C17_cell_unwrap_statement := by
  intro width spans hn h
  obtain ⟨ps, rfl⟩ := exists_toSpan spans hn
  exact unwrap_wrapContents width 3 ps h

-- Non-vacuity: fourteen spans, column width 30: five lines; read back exactly; the lines joined by
-- one space are the enumeration.
def exampleSpans : List Span :=
  [(1, 1), (3, 17), (20, 20), (25, 140), (141, 141), (150, 1520), (1600, 1600), (1700, 1800), (2000, 2000),
   (2100, 2101), (2200, 2200), (2300, 99999), (100000, 100000), (100001, 100002)]

example : (wrapLines 30 3 (joinSpans exampleSpans)).length = 5 ∧
    parseCell (renderCell 30 exampleSpans) = some exampleSpans ∧
    (∀ sp ∈ exampleSpans, 0 ≤ sp.1 ∧ 0 ≤ sp.2) ∧
    chunksWithin (30 - 3) (joinSpans exampleSpans) = true ∧
    unwrap (wrapContents 30 3 (joinSpans exampleSpans)) = joinSpans exampleSpans :=
  have hn : ∀ sp ∈ exampleSpans, 0 ≤ sp.1 ∧ 0 ≤ sp.2 := by decide +kernel
  have hc : chunksWithin (30 - 3) (joinSpans exampleSpans) = true := by decide +kernel
  ⟨by decide +kernel, C17_cell_roundtrip 30 (by decide) _ hn, hn, hc, C17_cell_unwrap 30 _ hn hc⟩

-- Here and in the test vectors below: evaluating `String.toList` on a literal decodes its UTF-8 bytes, which is
-- slow in the kernel; `String.toList_ofList` reads the characters off the literal instead.
example : renderCell 7 [(1, 1), (2, 2), (3, 3), (4, 4), (5, 6), (7, 7), (8, 8), (9, 9)] =
    "<details><summary>1,</summary>2, 3,<br>4, 5-6,<br>7, 8, 9</details>".toList := by
  rw [String.toList_ofList]
  decide +kernel

-- A number longer than the column is cut in the middle (width 8: first line 5 characters) or after its
-- hyphen: the lines joined by a space are NOT the enumeration (so the hypothesis of
-- `C17_cell_unwrap_statement` is needed, and a reader must not take `<br>` for a separator), yet the
-- cell reads back (`C17_cell_roundtrip`).
example : renderCell 8 [(12345678901, 12345678901)] = "<details><summary>12345</summary>678901</details>".toList ∧
    renderCell 8 [(123, 45678901)] = "<details><summary>123-</summary>45678901</details>".toList ∧
    unwrap (wrapContents 8 3 (joinSpans [(12345678901, 12345678901)])) ≠ joinSpans [(12345678901, 12345678901)] ∧
    parseCell (renderCell 8 [(12345678901, 12345678901)]) = some [(12345678901, 12345678901)] := by
  rw [String.toList_ofList, String.toList_ofList]
  exact ⟨by decide +kernel, by decide +kernel, by decide +kernel, C17_cell_roundtrip 8 (by decide) _ (by decide +kernel)⟩

/-! ### The text of the body

`renderBody showCost rowCost width b` is the list of the lines `get_markdown` writes for the structured
body `b` (heading lines with their counts, title lines with path and cost, table header, one row line
per row with cost, taxon in backquotes and Location cell, rule), the source listings excepted.
Hygiene, all decidable and evaluated by the harness (through the driver) on every generated database:
`okBody` — taxon names are made of valid code points other than backquote and newline, paths of valid
code points other than newline, spans are non-negative — and `costsOK` — the text printed for each cost
of the body is made of digits `.` `e` `-` `+` and is read back by `readCost` as that cost. -/

/-- **The text determines the report.** The structured body — which programs, in which order, under which
heading, the count announced by each heading, each program's path and cost, each row's taxon, cost and
spans (`_imported_` for none) — is read back from the lines by `parseBody`. -/
theorem C17_text_roundtrip (showCost : Rat → Str) (rowCost : Codes → Rat → Str) (readCost : Str → Option Rat)
    (width : Nat) (hw : 0 < width) (b : List (Bucket × List Section))
    (hb : okBody b = true) (hc : costsOK showCost rowCost readCost b = true) :
    parseBody readCost (renderBody showCost rowCost width b) = some b :=
  (parseBody_eq_some readCost _ b).mpr
    (fold_body showCost rowCost readCost width hw b (secOK_of showCost rowCost readCost b hb hc))

/-- … down to the characters: no line the model writes contains a newline, so the body TEXT —
`"\n".join(lines)` — splits back (`split("\n")`) into those lines, and the structured body is read back from the
text itself. -/
theorem C17_text_roundtrip_string (showCost : Rat → Str) (rowCost : Codes → Rat → Str) (readCost : Str → Option Rat)
    (width : Nat) (hw : 0 < width) (b : List (Bucket × List Section))
    (hb : okBody b = true) (hc : costsOK showCost rowCost readCost b = true) :
    (∀ l ∈ renderBody showCost rowCost width b, '\n' ∉ l) ∧
      parseBody readCost (splitLines (joinLines (renderBody showCost rowCost width b))) = some b :=
  ⟨renderBody_no_nl showCost rowCost readCost width hw b hb hc,
    read_text showCost rowCost readCost width rfl hw b hb hc (C17_text_roundtrip showCost rowCost readCost width hw b hb hc)⟩

/-- **The same with the strict reader**, which also checks that the lines follow the grammar of the body
(`bucket = blank heading section*`, `section = blank title blank header rule row* blank ---`): the model writes
texts of that grammar, as lines and as one text. This is the reader the driver runs on the real reports. -/
theorem C17_text_roundtrip_strict (showCost : Rat → Str) (rowCost : Codes → Rat → Str) (readCost : Str → Option Rat)
    (width : Nat) (hw : 0 < width) (b : List (Bucket × List Section))
    (hb : okBody b = true) (hc : costsOK showCost rowCost readCost b = true) :
    parseBodyStrict readCost (renderBody showCost rowCost width b) = some b ∧
      parseBodyStrict readCost (splitLines (joinLines (renderBody showCost rowCost width b))) = some b := by
  have h1 : parseBodyStrict readCost (renderBody showCost rowCost width b) = some b :=
    (parseBodyStrict_eq_some readCost _ b).mpr
      ⟨runLines_body showCost rowCost readCost width hw b (secOK_of showCost rowCost readCost b hb hc) .p0 (.inl rfl),
        C17_text_roundtrip showCost rowCost readCost width hw b hb hc⟩
  exact ⟨h1, read_text showCost rowCost readCost width rfl hw b hb hc h1⟩

/-- What the strict reader returns is what `parseBody` returns (so `C17_text_reader_counts` and
`C17_text_reader_sound` hold for it). -/
theorem C17_text_strict_le (readCost : Str → Option Rat) (lines : List Str) (b : List (Bucket × List Section))
    (h : parseBodyStrict readCost lines = some b) : parseBody readCost lines = some b :=
  ((parseBodyStrict_eq_some readCost lines b).mp h).2

/-- Two reports with the same body text have the same structured body. -/
theorem C17_text_injective (showCost : Rat → Str) (rowCost : Codes → Rat → Str) (readCost : Str → Option Rat)
    (width : Nat) (hw : 0 < width) (b b' : List (Bucket × List Section))
    (hb : okBody b = true) (hc : costsOK showCost rowCost readCost b = true)
    (hb' : okBody b' = true) (hc' : costsOK showCost rowCost readCost b' = true)
    (h : renderBody showCost rowCost width b = renderBody showCost rowCost width b') : b = b' := by
  have h1 := C17_text_roundtrip showCost rowCost readCost width hw b hb hc
  have h2 := C17_text_roundtrip showCost rowCost readCost width hw b' hb' hc'
  rw [h, h2] at h1
  exact (Option.some.inj h1).symm

/-- The hygiene of the body follows from the hygiene of the DATABASE: every path shown is the path of a
record, every row a (taxon, spans) entry of that record. -/
theorem C17_text_okBody_of_db (i : Input) (b : List (Bucket × List Section)) (h : body i = some b)
    (hp : okPrograms i.programs = true) : okBody b = true := by
  simp only [okBody, List.all_eq_true]
  intro g hg s hs
  obtain ⟨rec, hrec, hrows⟩ := C17_rows i b h g hg s hs
  have hmem := dictGet?_mem hrec
  simp only [okPrograms, List.all_eq_true, Bool.and_eq_true] at hp
  obtain ⟨h1, h2⟩ := hp _ hmem
  simp only [okSection, okRow, Bool.and_eq_true, List.all_eq_true]
  refine ⟨h1, fun r hr => ?_⟩
  have := h2 _ ((hrows r).mp hr).1
  simpa [Bool.and_eq_true, List.all_eq_true] using this

/-- **Membership, on the text.** What is read from the text of the report of `i` lists each assessed,
non-hidden program exactly once and no other. -/
theorem C17_text_membership (i : Input) (b : List (Bucket × List Section)) (h : body i = some b)
    (showCost : Rat → Str) (rowCost : Codes → Rat → Str) (readCost : Str → Option Rat) (width : Nat) (hw : 0 < width)
    (hb : okBody b = true) (hc : costsOK showCost rowCost readCost b = true)
    (b' : List (Bucket × List Section)) (hp : parseBody readCost (renderBody showCost rowCost width b) = some b') :
    (b'.flatMap fun g => g.2.map fun s => (s.cost, s.path)).Perm
      (i.assessed.filter fun cp => !i.hiddenPrograms.contains cp.2) := by
  rw [C17_text_roundtrip showCost rowCost readCost width hw b hb hc] at hp
  cases hp
  exact C17_membership i b h

/-- **Rows, on the text.** The rows read under a program title are exactly the non-hidden taxa of its
record, with the spans of the record and the assessed taxon cost. -/
theorem C17_text_rows (i : Input) (b : List (Bucket × List Section)) (h : body i = some b)
    (showCost : Rat → Str) (rowCost : Codes → Rat → Str) (readCost : Str → Option Rat) (width : Nat) (hw : 0 < width)
    (hb : okBody b = true) (hc : costsOK showCost rowCost readCost b = true)
    (b' : List (Bucket × List Section)) (hp : parseBody readCost (renderBody showCost rowCost width b) = some b')
    (g : Bucket × List Section) (hgm : g ∈ b') (s : Section) (hs : s ∈ g.2) :
    ∃ rec, dictGet? i.programs s.path = some rec ∧ ∀ r : Row, r ∈ s.rows ↔
      (r.taxon, r.spans) ∈ rec ∧ r.taxon ∉ i.hiddenTaxa ∧ r.cost = taxonCost i.strat i.knowledge r.taxon := by
  rw [C17_text_roundtrip showCost rowCost readCost width hw b hb hc] at hp
  cases hp
  exact C17_rows i b h g hgm s hs

/-- **Heading, interval and count, on the text.** Each group read from the text comes with its heading
line in the text, announcing exactly the number of programs read under it; with `by_cost_bucket` the
heading is `cost_bucket` of the cost of each of them (whose interval contains it: `C17_bucket_contains`). -/
theorem C17_text_bucket_count (i : Input) (b : List (Bucket × List Section)) (h : body i = some b)
    (showCost : Rat → Str) (rowCost : Codes → Rat → Str) (readCost : Str → Option Rat) (width : Nat) (hw : 0 < width)
    (hb : okBody b = true) (hc : costsOK showCost rowCost readCost b = true)
    (b' : List (Bucket × List Section)) (hp : parseBody readCost (renderBody showCost rowCost width b) = some b')
    (g : Bucket × List Section) (hgm : g ∈ b') :
    headingLine g.1 g.2.length ∈ renderBody showCost rowCost width b ∧
      (i.grouping = true → ∀ s ∈ g.2, g.1 = costBucket s.cost) := by
  rw [C17_text_roundtrip showCost rowCost readCost width hw b hb hc] at hp
  cases hp
  refine ⟨?_, fun hgr s hs => C17_bucket i hgr b h g hgm s hs⟩
  simp only [renderBody, List.mem_flatMap]
  exact ⟨g, hgm, by simp [renderBucket]⟩

/-- **The reader invents nothing**, whatever the lines: each group of a text that reads back comes from a heading
line of that text (with the right count), each of its programs from a title line of the text showing that path
and that cost, each row of a program from a row line of the text showing that taxon, cost and spans. So when the
harness finds the filter's result by reading a REAL report with `parseBody`, every item of it is written in the
report. -/
theorem C17_text_reader_sound (readCost : Str → Option Rat) (lines : List Str) (b : List (Bucket × List Section))
    (h : parseBody readCost lines = some b) (g : Bucket × List Section) (hg : g ∈ b) :
    (∃ l ∈ lines, classify readCost l = some (.heading g.1 g.2.length)) ∧
      ∀ s ∈ g.2, (∃ l ∈ lines, classify readCost l = some (.title s.path s.cost)) ∧
        ∀ r ∈ s.rows, ∃ l ∈ lines, classify readCost l = some (.row r) :=
  (fold_sound readCost lines lines (fun _ hl => hl) _ ((parseBody_eq_some readCost lines b).mp h)).2.2 g hg

/-- **The reader never invents a count**, whatever the lines (rendered by the model or not): every group
of a text that reads back comes from a heading line of that text whose announced count is the number of
programs read under it. -/
theorem C17_text_reader_counts (readCost : Str → Option Rat) (lines : List Str) (b : List (Bucket × List Section))
    (h : parseBody readCost lines = some b) (g : Bucket × List Section) (hg : g ∈ b) :
    ∃ l ∈ lines, classify readCost l = some (.heading g.1 g.2.length) :=
  (C17_text_reader_sound readCost lines b h g hg).1

-- Non-vacuity: a report of three programs under two headings (zeno costs). `b.py` has a hidden taxon `h`
-- (absent from its rows, present in its cost 1.375 = 5/4 + 1/8) and an imported taxon (no span: `_imported_`).
def exampleBody : List (Bucket × List Section) :=
  [(.q3, [⟨codesOf "a.py", 1 / 2, [⟨codesOf "x", 1 / 2, [(1, 1), (3, 4)]⟩, ⟨codesOf "meta/q", 0, [(1, 4)]⟩]⟩,
          ⟨codesOf "d/c.py", 3 / 4, [⟨codesOf "x/y", 3 / 4, [(2, 2)]⟩]⟩]),
   (.pow 1, [⟨codesOf "b.py", 11 / 8, [⟨codesOf "x/y", 3 / 4, [(1, 2), (5, 5)]⟩, ⟨codesOf "z", 1 / 2, []⟩]⟩])]

example : okBody exampleBody = true ∧ costsOK showFloat (rowCostText true) readDecimal exampleBody = true := by
  decide +kernel

example : (renderBody showFloat (rowCostText true) 30 exampleBody).map String.ofList =
    ["", "## 2 programs of learning cost in [0.5, 1[",
     "", "### Program a.py (learning cost 0.5)", "", "| Cost  | Taxon | Location |", "|----|----|----|",
     "| 0.5 | `x` | 1, 3-4 |", "| 0 | `meta/q` | 1-4 |", "", "---",
     "", "### Program d/c.py (learning cost 0.75)", "", "| Cost  | Taxon | Location |", "|----|----|----|",
     "| 0.75 | `x/y` | 2 |", "", "---",
     "", "## 1 program of learning cost in [1, 2[",
     "", "### Program b.py (learning cost 1.375)", "", "| Cost  | Taxon | Location |", "|----|----|----|",
     "| 0.75 | `x/y` | 1-2, 5 |", "| 0.5 | `z` | _imported_ |", "", "---"] := by
  refine map_ofList_eq ?_
  simp only [List.map_cons, List.map_nil]
  repeat rw [String.toList_ofList]
  decide +kernel

example : okPrograms (exampleInput true).programs = true := by decide +kernel

example : (splitLines (joinLines (renderBody showFloat (rowCostText true) 30 exampleBody))).length = 30 := by
  decide +kernel

example : parseBody readDecimal (renderBody showFloat (rowCostText true) 30 exampleBody) = some exampleBody :=
  C17_text_roundtrip _ _ _ 30 (by decide) _ (by decide +kernel) (by decide +kernel)

-- A heading announcing a wrong count, or a row above every title, is unreadable.
example : parseBody readDecimal (["", "## 2 programs of learning cost 0", "", "### Program a.py (learning cost 0.0)",
    "", "---"].map String.toList) = none := by
  simp only [List.map_cons, List.map_nil]
  repeat rw [String.toList_ofList]
  decide +kernel
example : (parseBody readDecimal (["", "## 1 program of learning cost 0", "", "### Program a.py (learning cost 0.0)",
    "", "---"].map String.toList)).isSome = true := by
  simp only [List.map_cons, List.map_nil]
  repeat rw [String.toList_ofList]
  decide +kernel
example : parseBody readDecimal (["| 0.5 | `z` | _imported_ |"].map String.toList) = none := by
  simp only [List.map_cons, List.map_nil]
  rw [String.toList_ofList]
  decide +kernel
-- A table rule before the table header: read by `parseBody`, refused by the strict reader; in order: accepted.
example : (parseBody readDecimal (["", "## 1 program of learning cost 0", "", "### Program a.py (learning cost 0.0)", "",
      "|----|----|----|", "| Cost  | Taxon | Location |", "", "---"].map String.toList)).isSome = true ∧
    parseBodyStrict readDecimal (["", "## 1 program of learning cost 0", "", "### Program a.py (learning cost 0.0)", "",
      "|----|----|----|", "| Cost  | Taxon | Location |", "", "---"].map String.toList) = none ∧
    (parseBodyStrict readDecimal (["", "## 1 program of learning cost 0", "", "### Program a.py (learning cost 0.0)", "",
      "| Cost  | Taxon | Location |", "|----|----|----|", "", "---"].map String.toList)).isSome = true := by
  simp only [List.map_cons, List.map_nil]
  repeat rw [String.toList_ofList]
  decide +kernel

end Paroxy.Props.C17
