/-
C01 — Structural tags match the syntax tree of the stored source.

Property theorems only. The `node` feature is the hand matcher of `Paroxy/Model/NodeFeature.lean`
(validated against the real `regex` engine with the pattern of `spec.md` on every run); the flat AST is
the dump `dumpP h [] [] t` of a tree `t` (C15: `flatten_ast` = post-processing of such a dump; the
harness checks that the real flat AST is the dump of the tweaked tree, `c15.spec`).
-/
import Paroxy.Proofs.NodeFeature
import Paroxy.Proofs.FlatEntries
import Paroxy.Proofs.NodeStarts
import Paroxy.Props.C15
namespace Paroxy.Props.C01
open Paroxy.Flat

/-- **C01 (node labels), on any well-formed enumeration.** Searching the `node` pattern (overlapped)
in the lines of well-formed entries and keeping the matches whose SUFFIX is a positioned type gives
exactly, in order, one match per positioned node: SUFFIX = its type, first POS = the text of its own
`_pos` line. Nothing else is reported for those types. -/
theorem C01_node_labels_entries (h : Str → Str) (hh : ∀ r, '=' ∉ h r) (P : Str → Bool)
    (es : List Entry) (hok : ∀ e ∈ es, e.ok = true) (hty : ∀ e ∈ es, e.typed P = true) :
    (nodeStarts (es.flatMap (Entry.lines h))).filter (fun x => P x.1) = es.filterMap Entry.posStart := by
  induction es with
  | nil => rfl
  | cons e es ih =>
    rw [List.flatMap_cons, nodeStarts_entry h hh P e (hok e List.mem_cons_self) (hty e List.mem_cons_self),
      ih (fun x hx => hok x (List.mem_cons_of_mem _ hx)) (fun x hx => hty x (List.mem_cons_of_mem _ hx)),
      List.filterMap_cons]
    cases e.posStart <;> rfl

/-- **C01 (node labels).** For a well-formed tree `t` (`treeOk`: no `=` in names and types, no
`/_type=` inside scalars, being positioned is a property of the type) and the hash function of any
flattening, the `node:` occurrences found in the dump of `t` whose type is a positioned type are, in
pre-order, exactly one per node of `t` that carries a line number — with that node's type — and
`pos_to_span` reads from each the node's **own line number** (and its path). -/
theorem C01_node_labels (t0 t : Val) (hwf : treeOk t = true) :
    ((nodeStarts (dumpP (hashFn t0) [] [] t)).filter (fun x => (posTypes t).contains x.1)).map
        (fun x => (x.1, (parsePos? x.2).map (·.1))) =
      (positionedNodes t).map (fun x => (x.1, some x.2)) := by
  have hall : ∀ e ∈ entries [] [] t, e.ok = true ∧ e.typed (posTypes t).contains = true :=
    fun e he => Bool.and_eq_true_iff.mp (List.all_eq_true.mp hwf e he)
  have hd : dumpP (hashFn t0) [] [] t = (entries [] [] t).flatMap (Entry.lines (hashFn t0)) :=
    dumpP_eq_entries (hashFn t0) [] [] t
  rw [hd]
  rw [C01_node_labels_entries (hashFn t0) (eq_not_mem_hashFn t0) _ (entries [] [] t)
    (fun e he => (hall e he).1) (fun e he => (hall e he).2)]
  rw [positionedNodes, positionedOfEntries_eq, List.map_filterMap, List.map_filterMap]
  congr 1
  funext ⟨addr, names, item⟩
  rcases item with ⟨ty, isE, r, _ | n⟩ | _ | _ <;> simp [Entry.posStart, parsePos_posText]

/-- **C01 (node labels, on the real pipeline).** For a tree `t` as exported from `ast.parse`, whose
on-the-fly form satisfies the local clauses of the six post-processing passes (`wfStages6`) and the
shape / repr-kind agreement clauses (`wfTweak`), and whose tweaked form `tweak [] …` — the one-shot
specification — is well formed for the `node` feature (`treeOk`) — both Bool-valued and evaluated on
every real tree —, searching the `node` pattern in **what `flatten_ast` returns** and keeping the positioned
types gives, in pre-order, exactly one occurrence per node of the tweaked tree that carries a line number,
with its type and its own line. -/
theorem C01_node_labels_pipeline (cfg : Cfg) (s : HashState) (t : Val) (ty : Str) (e : Bool) (r : Str)
    (ln : Option Nat) (fs : List (Str × Val)) (ht : prep cfg t = .node ty e r ln fs)
    (hwf : wfStages6 (prep cfg t) = true) (hwt : wfTweak (prep cfg t) = true)
    (hok : treeOk (tweak [] (prep cfg t)) = true) :
    ((nodeStarts (flattenAst cfg s t).1).filter
        (fun x => (posTypes (tweak [] (prep cfg t))).contains x.1)).map
        (fun x => (x.1, (parsePos? x.2).map (·.1))) =
      (positionedNodes (tweak [] (prep cfg t))).map (fun x => (x.1, some x.2)) := by
  rw [Paroxy.Props.C15.C15_flatten_tweaked cfg s t ty e r ln fs ht hwf hwt]
  exact C01_node_labels (prep cfg t) (tweak [] (prep cfg t)) hok

/-- Non-vacuity with a string constant containing `_pos=` (the former finding F17, `s = '_pos=3:1-:2'`, as
exported): the hypotheses of `C01_node_labels_pipeline` hold, the value is dumped escaped. -/
def samplePosString : Val :=
  .node cs!"Module" false [] none
    [(cs!"body", .list false
      [.node cs!"Assign" false [] (some 1)
        [(cs!"targets", .list false [.node cs!"Name" true cs!"Name(id='s')" (some 1)
            [(cs!"id", .scalar cs!"'s'" .str), (cs!"ctx", .node cs!"Store" false [] none [])]]),
         (cs!"value", .node cs!"Constant" true cs!"Constant(value='_pos=3:1-:2')" (some 1)
            [(cs!"value", .scalar cs!"'_pos=3:1-:2'" .str), (cs!"kind", .scalar cs!"None" .nameConst)]),
         (cs!"type_comment", .scalar cs!"None" .nameConst)]]),
     (cs!"type_ignores", .list false [])]

example : wfStages6 (prep implCfg samplePosString) = true ∧ wfTweak (prep implCfg samplePosString) = true ∧
    treeOk (tweak [] (prep implCfg samplePosString)) = true := by decide +kernel
example : positionedNodes (tweak [] (prep implCfg samplePosString)) =
    [(cs!"Assign", 1), (cs!"Name", 1), (cs!"Str", 1)] := by decide +kernel
example : cs!"/body/1/assignvalue/s=_pos\\=3:1-:2" ∈ dumpP id [] [] (tweak [] (prep implCfg samplePosString)) := by
  decide +kernel

/-- Non-vacuity: a small module `x = 1` (already tweaked) is well formed, and the theorem's right-hand
side lists its three positioned nodes. -/
def sample : Val :=
  .node cs!"Module" false [] none
    [(cs!"body", .list false
      [.node cs!"Assign" false [] (some 1)
        [(cs!"assigntargets", .list false [.node cs!"Name" true cs!"Name(id='x')" (some 1) [(cs!"id", .scalar cs!"x" .str)]]),
         (cs!"assignvalue", .node cs!"Num" true cs!"Constant(value=1)" (some 1) [(cs!"n", .scalar cs!"1" .num)])]])]

example : treeOk sample = true := by decide +kernel
example : positionedNodes sample = [(cs!"Assign", 1), (cs!"Name", 1), (cs!"Num", 1)] := by decide +kernel
example : (nodeStarts (dumpP (hashFn sample) [] [] sample)).map (·.1) =
    [cs!"Assign", cs!"Name", cs!"Num"] := by decide +kernel

/-- The positioned occurrences start on the node's own line: the binding computed by `get_bindings`
for a one-POS match of a positioned node has `start = end = lineno`. -/
theorem C01_binding_own_line (ty : Str) (n : Nat) (addr : List Nat) :
    nodeBinding? (ty, [posText n addr]) = some (cs!"node:" ++ ty, ⟨n, n, posPath addr⟩) := by
  simp [nodeBinding?, posToSpan?, parsePos_posText]

/-- … and for a two-POS match — the second capture `p2` being a position on line `n2` — the span goes from
the smaller to the larger of the two lines (fix 44b0b15: `pos_to_span` sorts them): `start = min n n2`. -/
theorem C01_binding_start_min (ty p2 x2 : Str) (n n2 : Nat) (addr : List Nat) (b : Str × SpanP)
    (hp2 : parsePos? p2 = some (n2, x2))
    (h : nodeBinding? (ty, [posText n addr, p2]) = some b) :
    b.1 = cs!"node:" ++ ty ∧ b.2.start = min n n2 ∧ b.2.stop = max n n2 ∧ b.2.path = posPath addr := by
  simp only [nodeBinding?, posToSpan?, List.head?_cons, List.getLast?_cons_cons, List.getLast?_singleton,
    parsePos_posText, hp2, Option.map_some, Option.some.injEq] at h
  rw [← h]; exact ⟨rfl, rfl, rfl, rfl⟩

/-- Corollary: the occurrence **starts on the node's own line** as soon as that line is not after the line of
the second capture. For a positioned node the second capture is its last positioned strict descendant in
dump order, so this hypothesis is what `lastDescMono` gives (`C02_node_span`: `GoodSpan`); it holds on every
real tree seen (a positioned node's line is the first line of its text, decorators apart, and the body comes
last). Without it the start would be the line of that descendant. -/
theorem C01_binding_start (ty p2 x2 : Str) (n n2 : Nat) (addr : List Nat) (b : Str × SpanP)
    (hp2 : parsePos? p2 = some (n2, x2)) (hle : n ≤ n2)
    (h : nodeBinding? (ty, [posText n addr, p2]) = some b) : b.1 = cs!"node:" ++ ty ∧ b.2.start = n := by
  obtain ⟨h1, h2, _, _⟩ := C01_binding_start_min ty p2 x2 n n2 addr b hp2 h
  exact ⟨h1, by rw [h2]; exact Nat.min_eq_left hle⟩

/-- **C01 (where the occurrences start, on the whole tree).** `nodeStartsSpec` is what the sorted span gives:
for every positioned node, the smaller of its own line and the line of its last positioned strict descendant in
dump order. Under `lastDescMono` (Bool-valued, evaluated on every real tree: holds on all of them) it is the
list of the positioned nodes **with their own lines** — the clause "it starts on that node's own line". The
harness compares the starts of the reported `node:` labels with `nodeStartsSpec` on every tree, whether the
hypothesis holds or not. -/
theorem C01_node_starts (t : Val) (h : lastDescMono [] [] t = true) :
    nodeStartsSpec [] [] t = positionedNodes t := nodeStartsSpec_eq_all.1 t [] [] h

example : lastDescMono [] [] sample = true ∧
    nodeStartsSpec [] [] sample = [(cs!"Assign", 1), (cs!"Name", 1), (cs!"Num", 1)] := by decide +kernel

/-- "Same text" clause of the property (tagging parses exactly the source that Paroxython stores and
shows): in this model it is a mere congruence — `tagNodes` reads `program.source` only — hence an
`example`, not a theorem. The clause is **exercised only**: harness/c01.py records the text given to
`ast.parse` during `TagDatabase(...)` and compares it with `programs_infos[path]["source"]`. -/
example (parse : Str → Option Val) (cfg : Cfg) (p q : ProgramRec)
    (h : storedSource p = storedSource q) : tagNodes parse cfg p = tagNodes parse cfg q := by
  simp only [storedSource] at h
  simp [tagNodes, h]

end Paroxy.Props.C01
