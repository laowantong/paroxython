/-
C16 — Predicate spellings normalise to the intended relation or are rejected.

`names` is the dictionary of the *generated* table (162 keys + alias updates resolved in order),
so the theorems are re-checked against compare_spans.py on every run; `NP.normalize` is the
hand-written model of normalize_predicate.py (tied by correspondence, harness/c16.py).
-/
import Paroxy.Proofs.NormalizeAbbrev
namespace Paroxy.Props.C16
open Paroxy Paroxy.Spec Paroxy.NP Paroxy.Spec.NP

/-- **C16 (total).** Whatever the input string, the model either fails (`ValueError`) or returns
one of the 162 keys of the table: no other outcome. -/
theorem C16_total (s : Str) (r : Codes × Bool) (h : normalize names s = some r) :
    ∃ k ∈ allKeys, r.1 = k.codes :=
  names_keyDict.normalize_mem_allKeys s r h

/-- **C16 (formula spellings, all junk).** Every formula spelling of every key — operands in
either case with optional index digits, operators canonical or `<=`/`==`, *arbitrary* junk
(spaces, parentheses, digits, … : any ASCII non-letters other than `< = !`) around and between the
tokens — resolves to that key, not negated. Unbounded in the junk strings. -/
theorem C16_formula (k : Key) (hk : k ∈ allKeys) (st : FormulaStyle) (hj : st.junkOk = true) :
    normalize names (renderFormula k st) = some (k.codes, false) :=
  body_plain hk (body_lower_formula k hk st (styleOk_of_junkOk hj))

/-- The same with a leading `!` (and any spaces around it): negated. -/
theorem C16_formula_bang (k : Key) (hk : k ∈ allKeys) (st : FormulaStyle) (hj : st.junkOk = true)
    (a b : Nat) :
    normalize names (List.replicate a 32 ++ 33 :: List.replicate b 32 ++ renderFormula k st) =
      some (k.codes, true) :=
  body_bang hk (body_lower_formula k hk st (styleOk_of_junkOk hj)) (spaces_ws a) (spaces_ws b)

/-- **C16 (canonical).** Each of the 162 canonical keys resolves to itself, not negated: no silent
change of relation. (The key is its own formula spelling, in the empty style.) -/
theorem C16_canonical (k : Key) (hk : k ∈ allKeys) : normalize names k.codes = some (k.codes, false) := by
  have := C16_formula k hk {} rfl
  rwa [formula_bare] at this

-- Here and in the test vectors below: evaluating `codesOf` on a literal decodes its UTF-8 bytes, which is
-- slow in the kernel; `codesOf_ofList` reads the characters off the literal instead.
-- Non-vacuity: `Y1 <  x1 ==(X2) <= y2` is a formula spelling of `y<x=x≤y`.
example : renderFormula ⟨.y, .x, .x, .y, .lt, .eq, .le⟩
    { s1 := { upper := true, index := some 1 }, s2 := { index := some 1 },
      s3 := { upper := true, index := some 2 }, s4 := { index := some 2 },
      p2 := .ascii, p3 := .ascii,
      j1 := [32], j2 := [32, 32], j3 := [32], j4 := [40], j5 := [41, 32], j6 := [32] } =
    codesOf "Y1 <  x1 ==(X2) <= y2" := by
  rw [codesOf_ofList]
  decide +kernel
example : (⟨.y, .x, .x, .y, .lt, .eq, .le⟩ : Key) ∈ allKeys := by decide

/-! ### Decorated formula spellings (negation words, the verb `is`)

In all of the following: `k` any of the 162 keys, `st` any style with arbitrary junk strings
(`junkOk`: ASCII non-letters other than `< = !`, so digits, `_`, spaces, tabs, parentheses … are
allowed, also adjacent to the decoration — extra spaces before/after the formula are part of
`st.j0`/`st.j7`); `ws`, `ws'`, `ws2` any strings of ASCII whitespace; `wN` ANY string whose
lower-casing is `not` (`not`, `NOT`, `Not`, …), `wI` any string whose lower-casing is `is`.
The single literal space (32) next to `not`/`is` is the one the Python code removes with the word.
No side condition on the junk adjacent to the decoration is needed (see the adversarial examples
at the end of the section). -/

/-- `not F` ↦ negated. -/
theorem C16_formula_not_prefix (k : Key) (hk : k ∈ allKeys) (st : FormulaStyle) (hj : st.junkOk = true)
    {ws wN : Str} (hws : ws.all isSpace = true) (hN : lower wN = sNot) :
    normalize names (ws ++ wN ++ 32 :: renderFormula k st) = some (k.codes, true) :=
  body_not_prefix hk (body_lower_formula k hk st (styleOk_of_junkOk hj)) hws hN

/-- `F not` ↦ negated (trailing whitespace after `not` is stripped first, so `not\s+` never fires). -/
theorem C16_formula_not_suffix (k : Key) (hk : k ∈ allKeys) (st : FormulaStyle) (hj : st.junkOk = true)
    {ws wN : Str} (hws : ws.all isSpace = true) (hN : lower wN = sNot) :
    normalize names (renderFormula k st ++ 32 :: wN ++ ws) = some (k.codes, true) :=
  body_not_suffix hk (body_lower_formula k hk st (styleOk_of_junkOk hj)) hws hN

/-- `is F` ↦ not negated: the verb is ignored. -/
theorem C16_formula_is_prefix (k : Key) (hk : k ∈ allKeys) (st : FormulaStyle) (hj : st.junkOk = true)
    {ws wI : Str} (hws : ws.all isSpace = true) (hI : lower wI = sIs) :
    normalize names (ws ++ wI ++ 32 :: renderFormula k st) = some (k.codes, false) :=
  body_is_prefix hk (body_lower_formula k hk st (styleOk_of_junkOk hj)) hws hI

/-- `F is` ↦ not negated. -/
theorem C16_formula_is_suffix (k : Key) (hk : k ∈ allKeys) (st : FormulaStyle) (hj : st.junkOk = true)
    {ws wI : Str} (hws : ws.all isSpace = true) (hI : lower wI = sIs) :
    normalize names (renderFormula k st ++ 32 :: wI ++ ws) = some (k.codes, false) :=
  body_is_suffix hk (body_lower_formula k hk st (styleOk_of_junkOk hj)) hws hI

/-- `is not F` ↦ negated. -/
theorem C16_formula_is_not (k : Key) (hk : k ∈ allKeys) (st : FormulaStyle) (hj : st.junkOk = true)
    {ws ws2 wI wN : Str} (hws : ws.all isSpace = true) (hws2 : ws2.all isSpace = true)
    (hI : lower wI = sIs) (hN : lower wN = sNot) :
    normalize names (ws ++ wI ++ 32 :: ws2 ++ wN ++ 32 :: renderFormula k st) = some (k.codes, true) :=
  body_is_not_prefix hk (body_lower_formula k hk st (styleOk_of_junkOk hj)) hws hws2 hI hN

/-- `is F not` ↦ negated. -/
theorem C16_formula_is_prefix_not_suffix (k : Key) (hk : k ∈ allKeys) (st : FormulaStyle)
    (hj : st.junkOk = true) {ws ws' wI wN : Str} (hws : ws.all isSpace = true)
    (hws' : ws'.all isSpace = true) (hI : lower wI = sIs) (hN : lower wN = sNot) :
    normalize names (ws ++ wI ++ 32 :: renderFormula k st ++ 32 :: wN ++ ws') = some (k.codes, true) :=
  body_is_prefix_not_suffix hk (body_lower_formula k hk st (styleOk_of_junkOk hj)) hws hws' hI hN

/-- `F is not` ↦ negated. -/
theorem C16_formula_is_not_suffix (k : Key) (hk : k ∈ allKeys) (st : FormulaStyle) (hj : st.junkOk = true)
    {ws ws2 wI wN : Str} (hws : ws.all isSpace = true) (hws2 : ws2.all isSpace = true)
    (hI : lower wI = sIs) (hN : lower wN = sNot) :
    normalize names (renderFormula k st ++ 32 :: wI ++ ws2 ++ 32 :: wN ++ ws) = some (k.codes, true) :=
  body_is_not_suffix hk (body_lower_formula k hk st (styleOk_of_junkOk hj)) hws hws2 hI hN

/-- `not is F` ↦ negated. -/
theorem C16_formula_not_is (k : Key) (hk : k ∈ allKeys) (st : FormulaStyle) (hj : st.junkOk = true)
    {ws ws2 wI wN : Str} (hws : ws.all isSpace = true) (hws2 : ws2.all isSpace = true)
    (hI : lower wI = sIs) (hN : lower wN = sNot) :
    normalize names (ws ++ wN ++ 32 :: ws2 ++ wI ++ 32 :: renderFormula k st) = some (k.codes, true) :=
  body_not_is_prefix hk (body_lower_formula k hk st (styleOk_of_junkOk hj)) hws hws2 hI hN

/-- `! is F` ↦ negated. -/
theorem C16_formula_bang_is (k : Key) (hk : k ∈ allKeys) (st : FormulaStyle) (hj : st.junkOk = true)
    {ws ws2 wI : Str} (hws : ws.all isSpace = true) (hws2 : ws2.all isSpace = true) (hI : lower wI = sIs) :
    normalize names (ws ++ 33 :: ws2 ++ wI ++ 32 :: renderFormula k st) = some (k.codes, true) :=
  body_bang_is_prefix hk (body_lower_formula k hk st (styleOk_of_junkOk hj)) hws hws2 hI

/-- `! F is` ↦ negated. -/
theorem C16_formula_bang_is_suffix (k : Key) (hk : k ∈ allKeys) (st : FormulaStyle) (hj : st.junkOk = true)
    {ws ws' wI : Str} (hws : ws.all isSpace = true) (hws' : ws'.all isSpace = true) (hI : lower wI = sIs) :
    normalize names (ws ++ 33 :: renderFormula k st ++ 32 :: wI ++ ws') = some (k.codes, true) :=
  body_bang_is_suffix hk (body_lower_formula k hk st (styleOk_of_junkOk hj)) hws hws' hI

/-- **Every decoration of the specification's list** (`Spec.NP.decorations`, the 18 forms the
harness renders: `!`, `not `, ` not`, `is `, ` is`, `is not `, ` is not`, `is … not`, `!is `, with
case and spacing variants) **around every formula spelling** gives the key and the decoration's
negation flag. -/
theorem C16_formula_decorated (k : Key) (hk : k ∈ allKeys) (st : FormulaStyle) (hj : st.junkOk = true)
    (d : Str × Str × Bool) (hd : d ∈ decorations) :
    normalize names (d.1 ++ renderFormula k st ++ d.2.1) = some (k.codes, d.2.2) :=
  body_spec_decorated hk (body_lower_formula k hk st (styleOk_of_junkOk hj)) d hd

-- Non-vacuity of the hypotheses.
example : lower (codesOf "NoT") = sNot := by
  rw [codesOf_ofList]
  decide +kernel
example : lower (codesOf "IS") = sIs := by
  rw [codesOf_ofList]
  decide +kernel
example : (codesOf " \t").all isSpace = true := by
  rw [codesOf_ofList]
  decide +kernel
example : (codesOf "Is Not ", codesOf " ", true) ∈ decorations := by decide +kernel
-- `\tNOT  (x1<X2)==y1<= Y2_` is an instance of `C16_formula_not_prefix`.
example : codesOf "\t" ++ codesOf "NOT" ++ 32 :: renderFormula ⟨.x, .x, .y, .y, .lt, .eq, .le⟩
    { s1 := { index := some 1 }, s2 := { upper := true, index := some 2 }, s3 := { index := some 1 },
      s4 := { upper := true, index := some 2 }, p2 := .ascii, p3 := .ascii,
      j0 := [32, 40], j3 := [41], j6 := [32], j7 := [95] } =
    codesOf "\tNOT  (x1<X2)==y1<= Y2_" := by
  rw [codesOf_ofList, codesOf_ofList, codesOf_ofList]
  decide +kernel
-- Adversarial neighbours of the decoration (digits and `_` are word characters for `\b`; tabs are
-- `\s` but not the literal space that `replace` removes): the results are still the expected ones,
-- which is why the theorems above need no side condition on `st.j0` / `st.j7`.
example : normalize names (codesOf "is 1_x<x<y<y_9 not") = some (codesOf "x<x<y<y", true) := by
  rw [codesOf_ofList, codesOf_ofList]
  exact names_keyDict.normalize_of_salvage (k := ⟨.x, .x, .y, .y, .lt, .lt, .lt⟩) (by decide) (by decide +kernel)
    (by decide +kernel)
example : normalize names (codesOf "x<x<y<y_ is") = some (codesOf "x<x<y<y", false) := by
  rw [codesOf_ofList, codesOf_ofList]
  exact names_keyDict.normalize_of_salvage (k := ⟨.x, .x, .y, .y, .lt, .lt, .lt⟩) (by decide) (by decide +kernel)
    (by decide +kernel)
example : normalize names (codesOf "not _0x<x<y<y\t") = some (codesOf "x<x<y<y", true) := by
  rw [codesOf_ofList, codesOf_ofList]
  exact names_keyDict.normalize_of_salvage (k := ⟨.x, .x, .y, .y, .lt, .lt, .lt⟩) (by decide) (by decide +kernel)
    (by decide +kernel)
example : normalize names (codesOf "x<x<y<y 9 not  ") = some (codesOf "x<x<y<y", true) := by
  rw [codesOf_ofList, codesOf_ofList]
  exact names_keyDict.normalize_of_salvage (k := ⟨.x, .x, .y, .y, .lt, .lt, .lt⟩) (by decide) (by decide +kernel)
    (by decide +kernel)

/-! ### Names under every case mask and decoration -/

/-- **C16 (names, every case).** For each of the 19 names, ANY string `w` whose lower-casing is
the name (every upper/lower-case mask), surrounded by any whitespace, resolves to the name's key. -/
theorem C16_name_case (n : Codes) (k : Key) (h : (n, k) ∈ aliases) {w ws ws' : Str} (hw : lower w = n)
    (hws : ws.all isSpace = true) (hws' : ws'.all isSpace = true) :
    normalize names (ws ++ w ++ ws') = some (k.codes, false) :=
  names_keyDict.name_decorated n k h ([], [], false) (by decide +kernel) (by simpa using hw) hws hws'

/-- **C16 (names).** Each of the 13 Allen names and 6 synonyms resolves to the key the manual gives
for it, not negated. -/
theorem C16_names (n : Codes) (k : Key) (h : (n, k) ∈ aliases) :
    normalize names n = some (k.codes, false) := by
  have := C16_name_case n k h (w := n) (ws := []) (ws' := [])
    (lower_id (alias_lower h)) rfl rfl
  simpa using this

/-- The case-mask rendering of the specification is such a string. -/
theorem C16_name_mask (n : Codes) (k : Key) (h : (n, k) ∈ aliases) (mask : List Bool) {ws ws' : Str}
    (hws : ws.all isSpace = true) (hws' : ws'.all isSpace = true) :
    normalize names (ws ++ renderName n mask ++ ws') = some (k.codes, false) :=
  C16_name_case n k h
    (renderName_lower n mask (alias_lower h)) hws hws'

/-- **C16 (names, decorated).** For each of the 19 names (including the name `is` itself) and
each of the 12 decorations `(pre, post, neg)` of `coreDecorations` (none, `is `, ` is`, `!`, `! `,
`!is `, `! is `, `not `, ` not`, `is not `, ` is not`, `is … not`): ANY string `w` whose
lower-casing is `pre ++ name ++ post` (every case mask of the name and of the words `is`/`not`),
surrounded by any whitespace, resolves to the name's key with the flag `neg`.
(Inner spacing is exactly that of the decoration; white space after `not `, before ` not` and after `!`
is the subject of `C16_names_spaced`, `C16_names_spaced_suffix`, `C16_names_spaced_bang`.) -/
theorem C16_name_decorated (n : Codes) (k : Key) (h : (n, k) ∈ aliases) (d : Str × Str × Bool)
    (hd : d ∈ coreDecorations) {w ws ws' : Str} (hw : lower w = d.1 ++ n ++ d.2.1)
    (hws : ws.all isSpace = true) (hws' : ws'.all isSpace = true) :
    normalize names (ws ++ w ++ ws') = some (k.codes, d.2.2) :=
  names_keyDict.name_decorated n k h d hd hw hws hws'

/-- Every decoration of the specification's list (the 18 forms rendered by the harness, with
their own case and spacing) around every case-mask spelling of every name. -/
theorem C16_name_spec_decorated (n : Codes) (k : Key) (h : (n, k) ∈ aliases) (d : Str × Str × Bool)
    (hd : d ∈ decorations) (mask : List Bool) :
    normalize names (d.1 ++ renderName n mask ++ d.2.1) = some (k.codes, d.2.2) := by
  rw [normalize_eq, lower_append, lower_append, renderName_lower n mask (alias_lower h), normalizeLow_eq,
    specRow_of hd h]
  exact lookup_hit (names_keyDict.alias (n, k) h) _

-- Non-vacuity: `  Is NOT Started BY ` is covered by `C16_name_decorated`.
example : (codesOf "started by", (⟨.y, .x, .y, .x, .eq, .le, .le⟩ : Key)) ∈ aliases := by decide +kernel
example : (codesOf "is not ", codesOf "", true) ∈ coreDecorations := by decide +kernel
example : lower (codesOf "Is NOT Started BY") = codesOf "is not " ++ codesOf "started by" ++ codesOf "" := by
  rw [codesOf_ofList, codesOf_ofList, codesOf_ofList, codesOf_ofList]
  decide +kernel
example : renderName (codesOf "inside") [true, false, true] = codesOf "InSide" := by
  rw [codesOf_ofList, codesOf_ofList]
  decide +kernel

/-! ### Abbreviated spellings under every decoration

In the theorems below `k` is any of the 162 keys, `ab` any abbreviation the key has (`ab.applies k`: a single
letter for the adjacent pair `c≤c` at letters 1-2, 2-3 or 3-4, for both outer pairs, or `x=y` / `y=x` for the identity — 60 pairs `(ab, k)` in all, `abbrevPairs`), `st` ANY style:
arbitrary junk strings around and between the kept tokens (`junkOk`), operands in either case with
an optional index digit (the code erases digits, so `X1<y2` is `x<y`), operators canonical or
`<=` / `==`. Same negation markers, `is` variants and side conditions as the `C16_formula_*` family.
They are derived from one fact (`expand_abbrev`): the code's expansion step maps the bare
abbreviation to the key, so that the lower-cased abbreviated spelling is a `Body` of the key as the full
spelling is (`body_lower_abbrev`) and goes through the pipeline exactly as the full spelling with the same
decoration does. -/

/-- The expansion step of the code (`x=y` ↦ `x=y≤x=y`, single `x` ↦ `x≤x`, single `y` ↦ `y≤y`) sends the
salvaged abbreviated spelling where it sends the salvaged FULL spelling with the same decoration: to
the key. Unbounded in the junk. -/
theorem C16_abbrev_expands (k : Key) (hk : k ∈ allKeys) (ab : Abbrev) (ha : ab.applies k = true)
    (st : FormulaStyle) (hj : st.junkOk = true) :
    salvage (lower (renderAbbrev k ab st)) = k.codes ∧
    salvage (lower (renderAbbrev k ab st)) = salvage (lower (renderFormula k st)) := by
  have ok := styleOk_of_junkOk hj
  have h1 := body_salvage (body_lower_abbrev k hk ab ha st ok)
  refine ⟨h1, ?_⟩
  rw [h1, body_salvage (body_lower_formula k hk st ok)]

/-- **C16 (abbreviations, all junk).** Every abbreviated spelling of every key that has one, under
every admissible decoration, resolves to that key, not negated. -/
theorem C16_abbrev_formula (k : Key) (hk : k ∈ allKeys) (ab : Abbrev) (ha : ab.applies k = true)
    (st : FormulaStyle) (hj : st.junkOk = true) :
    normalize names (renderAbbrev k ab st) = some (k.codes, false) :=
  body_plain hk (body_lower_abbrev k hk ab ha st (styleOk_of_junkOk hj))

/-- With a leading `!` (any white space around it): negated. -/
theorem C16_abbrev_bang (k : Key) (hk : k ∈ allKeys) (ab : Abbrev) (ha : ab.applies k = true)
    (st : FormulaStyle) (hj : st.junkOk = true) {ws ws2 : Str} (hws : ws.all isSpace = true)
    (hws2 : ws2.all isSpace = true) :
    normalize names (ws ++ 33 :: ws2 ++ renderAbbrev k ab st) = some (k.codes, true) :=
  body_bang hk (body_lower_abbrev k hk ab ha st (styleOk_of_junkOk hj)) hws hws2

/-- `not A` ↦ negated. -/
theorem C16_abbrev_not_prefix (k : Key) (hk : k ∈ allKeys) (ab : Abbrev) (ha : ab.applies k = true)
    (st : FormulaStyle) (hj : st.junkOk = true) {ws wN : Str} (hws : ws.all isSpace = true)
    (hN : lower wN = sNot) :
    normalize names (ws ++ wN ++ 32 :: renderAbbrev k ab st) = some (k.codes, true) :=
  body_not_prefix hk (body_lower_abbrev k hk ab ha st (styleOk_of_junkOk hj)) hws hN

/-- `A not` ↦ negated. -/
theorem C16_abbrev_not_suffix (k : Key) (hk : k ∈ allKeys) (ab : Abbrev) (ha : ab.applies k = true)
    (st : FormulaStyle) (hj : st.junkOk = true) {ws wN : Str} (hws : ws.all isSpace = true)
    (hN : lower wN = sNot) :
    normalize names (renderAbbrev k ab st ++ 32 :: wN ++ ws) = some (k.codes, true) :=
  body_not_suffix hk (body_lower_abbrev k hk ab ha st (styleOk_of_junkOk hj)) hws hN

/-- `is A` ↦ not negated. -/
theorem C16_abbrev_is_prefix (k : Key) (hk : k ∈ allKeys) (ab : Abbrev) (ha : ab.applies k = true)
    (st : FormulaStyle) (hj : st.junkOk = true) {ws wI : Str} (hws : ws.all isSpace = true)
    (hI : lower wI = sIs) :
    normalize names (ws ++ wI ++ 32 :: renderAbbrev k ab st) = some (k.codes, false) :=
  body_is_prefix hk (body_lower_abbrev k hk ab ha st (styleOk_of_junkOk hj)) hws hI

/-- `A is` ↦ not negated. -/
theorem C16_abbrev_is_suffix (k : Key) (hk : k ∈ allKeys) (ab : Abbrev) (ha : ab.applies k = true)
    (st : FormulaStyle) (hj : st.junkOk = true) {ws wI : Str} (hws : ws.all isSpace = true)
    (hI : lower wI = sIs) :
    normalize names (renderAbbrev k ab st ++ 32 :: wI ++ ws) = some (k.codes, false) :=
  body_is_suffix hk (body_lower_abbrev k hk ab ha st (styleOk_of_junkOk hj)) hws hI

/-- `is not A` ↦ negated. -/
theorem C16_abbrev_is_not (k : Key) (hk : k ∈ allKeys) (ab : Abbrev) (ha : ab.applies k = true)
    (st : FormulaStyle) (hj : st.junkOk = true) {ws ws2 wI wN : Str} (hws : ws.all isSpace = true)
    (hws2 : ws2.all isSpace = true) (hI : lower wI = sIs) (hN : lower wN = sNot) :
    normalize names (ws ++ wI ++ 32 :: ws2 ++ wN ++ 32 :: renderAbbrev k ab st) = some (k.codes, true) :=
  body_is_not_prefix hk (body_lower_abbrev k hk ab ha st (styleOk_of_junkOk hj)) hws hws2 hI hN

/-- `is A not` ↦ negated. -/
theorem C16_abbrev_is_prefix_not_suffix (k : Key) (hk : k ∈ allKeys) (ab : Abbrev)
    (ha : ab.applies k = true) (st : FormulaStyle) (hj : st.junkOk = true) {ws ws' wI wN : Str}
    (hws : ws.all isSpace = true) (hws' : ws'.all isSpace = true) (hI : lower wI = sIs) (hN : lower wN = sNot) :
    normalize names (ws ++ wI ++ 32 :: renderAbbrev k ab st ++ 32 :: wN ++ ws') = some (k.codes, true) :=
  body_is_prefix_not_suffix hk (body_lower_abbrev k hk ab ha st (styleOk_of_junkOk hj)) hws hws' hI hN

/-- `A is not` ↦ negated. -/
theorem C16_abbrev_is_not_suffix (k : Key) (hk : k ∈ allKeys) (ab : Abbrev) (ha : ab.applies k = true)
    (st : FormulaStyle) (hj : st.junkOk = true) {ws ws2 wI wN : Str} (hws : ws.all isSpace = true)
    (hws2 : ws2.all isSpace = true) (hI : lower wI = sIs) (hN : lower wN = sNot) :
    normalize names (renderAbbrev k ab st ++ 32 :: wI ++ ws2 ++ 32 :: wN ++ ws) = some (k.codes, true) :=
  body_is_not_suffix hk (body_lower_abbrev k hk ab ha st (styleOk_of_junkOk hj)) hws hws2 hI hN

/-- `not is A` ↦ negated. -/
theorem C16_abbrev_not_is (k : Key) (hk : k ∈ allKeys) (ab : Abbrev) (ha : ab.applies k = true)
    (st : FormulaStyle) (hj : st.junkOk = true) {ws ws2 wI wN : Str} (hws : ws.all isSpace = true)
    (hws2 : ws2.all isSpace = true) (hI : lower wI = sIs) (hN : lower wN = sNot) :
    normalize names (ws ++ wN ++ 32 :: ws2 ++ wI ++ 32 :: renderAbbrev k ab st) = some (k.codes, true) :=
  body_not_is_prefix hk (body_lower_abbrev k hk ab ha st (styleOk_of_junkOk hj)) hws hws2 hI hN

/-- `! is A` ↦ negated. -/
theorem C16_abbrev_bang_is (k : Key) (hk : k ∈ allKeys) (ab : Abbrev) (ha : ab.applies k = true)
    (st : FormulaStyle) (hj : st.junkOk = true) {ws ws2 wI : Str} (hws : ws.all isSpace = true)
    (hws2 : ws2.all isSpace = true) (hI : lower wI = sIs) :
    normalize names (ws ++ 33 :: ws2 ++ wI ++ 32 :: renderAbbrev k ab st) = some (k.codes, true) :=
  body_bang_is_prefix hk (body_lower_abbrev k hk ab ha st (styleOk_of_junkOk hj)) hws hws2 hI

/-- `! A is` ↦ negated. -/
theorem C16_abbrev_bang_is_suffix (k : Key) (hk : k ∈ allKeys) (ab : Abbrev) (ha : ab.applies k = true)
    (st : FormulaStyle) (hj : st.junkOk = true) {ws ws' wI : Str} (hws : ws.all isSpace = true)
    (hws' : ws'.all isSpace = true) (hI : lower wI = sIs) :
    normalize names (ws ++ 33 :: renderAbbrev k ab st ++ 32 :: wI ++ ws') = some (k.codes, true) :=
  body_bang_is_suffix hk (body_lower_abbrev k hk ab ha st (styleOk_of_junkOk hj)) hws hws' hI

/-- **Every decoration of the specification's list around every abbreviated spelling**: the key and
the decoration's negation flag (negated exactly when the decoration carries `!`, `not ` or ` not`). -/
theorem C16_abbrev_decorated (k : Key) (hk : k ∈ allKeys) (ab : Abbrev) (ha : ab.applies k = true)
    (st : FormulaStyle) (hj : st.junkOk = true) (d : Str × Str × Bool) (hd : d ∈ decorations) :
    normalize names (d.1 ++ renderAbbrev k ab st ++ d.2.1) = some (k.codes, d.2.2) :=
  body_spec_decorated hk (body_lower_abbrev k hk ab ha st (styleOk_of_junkOk hj)) d hd

/-- The general theorems do cover the finite tables: each of the 58 single-letter spellings of
`allAbbrevs` (and `x=y`, `y=x`) is the undecorated rendering of an abbreviation its key has. -/
theorem C16_abbrev_covers (s : Codes) (k : Key) (h : (s, k) ∈ allAbbrevs ∨ (s, k) ∈ abbreviations.take 2) :
    ∃ ab : Abbrev, ab.applies k = true ∧ renderAbbrev k ab {} = s := by
  have h' : (allAbbrevs ++ abbreviations.take 2).all (fun p =>
      allAbbrevKinds.any fun ab => ab.applies p.2 && (abbrevCodes ab p.2 == p.1)) = true := by decide +kernel
  have hm : (s, k) ∈ allAbbrevs ++ abbreviations.take 2 := List.mem_append.mpr h
  obtain ⟨ab, _, hab⟩ := List.any_eq_true.mp (List.all_eq_true.mp h' (s, k) hm)
  simp only [Bool.and_eq_true, beq_iff_eq] at hab
  exact ⟨ab, hab.1, by rw [abbrev_bare]; exact hab.2⟩

/-- **C16 (abbreviations, all keys).** Every key that has an adjacent pair `x≤x` (resp. `y≤y`) may be
written with a single `x` (resp. `y`), or both: all 58 such spellings of the 162 keys resolve to their
key, not negated — not only the samples of `abbreviations`. (`x=y` and `y=x`, which would abbreviate
`x≤x=y≤y` and `y≤y=x≤x`, are the manual's spelling of the identity: `C16_abbrev`.) -/
theorem C16_abbrev_all (s : Codes) (k : Key) (h : (s, k) ∈ allAbbrevs) :
    normalize names s = some (k.codes, false) := by
  have hk : k ∈ allKeys := by
    simp only [allAbbrevs, List.mem_filter, List.mem_flatMap, List.mem_map] at h
    obtain ⟨⟨k', hk', s', _, e⟩, _⟩ := h
    cases e; exact hk'
  obtain ⟨ab, ha, e⟩ := C16_abbrev_covers s k (Or.inl h)
  rw [← e]
  exact C16_abbrev_formula k hk ab ha {} rfl

example : allAbbrevs.length = 58 := by decide +kernel
example : (codesOf "x<y≤y", (⟨.x, .x, .y, .y, .le, .lt, .le⟩ : Key)) ∈ allAbbrevs := by
  rw [codesOf_ofList]
  decide +kernel

/-- **C16 (abbreviations).** `x=y`, `y=x` and formulas with a single `x` and/or a single `y`: the samples of
the specification, some of them decorated. What reaches the dictionary salvages to the key. -/
theorem C16_abbrev (s : Str) (k : Key) (h : (s, k) ∈ abbreviations) :
    normalize names s = some (k.codes, false) := by
  have h' : abbreviations.all (fun p => allKeys.contains p.2 &&
      salvage (reach (strip (lower p.1))).1 == p.2.codes && !(reach (strip (lower p.1))).2) = true := by
    decide +kernel
  have row := List.all_eq_true.mp h' (s, k) h
  simp only [Bool.and_eq_true, beq_iff_eq, Bool.not_eq_true', List.contains_iff_mem] at row
  exact names_keyDict.normalize_of_salvage row.1.1 row.1.2 (by rw [row.2])

-- Non-vacuity: 60 (abbreviation, key) pairs; `NOT  (X1) <= y2_` is `C16_abbrev_not_prefix` for `x≤x≤y≤y`.
example : abbrevPairs.length = 60 := by decide +kernel
example : Abbrev.both.applies ⟨.x, .x, .y, .y, .le, .le, .le⟩ = true := by decide
example : Abbrev.both.applies ⟨.x, .x, .y, .y, .le, .eq, .le⟩ = false := by decide
example : Abbrev.identYX.applies identityKey = true := by decide
example : codesOf "NOT" ++ 32 :: renderAbbrev ⟨.x, .x, .y, .y, .le, .le, .le⟩ .both
    { s1 := { upper := true, index := some 1 }, s3 := { index := some 2 }, p2 := .ascii,
      j0 := [32, 40], j1 := [41, 32], j4 := [32], j7 := [95] } = codesOf "NOT  (X1) <= y2_" := by
  rw [codesOf_ofList, codesOf_ofList]
  decide +kernel
example : renderAbbrev identityKey .identYX { s1 := { upper := true }, p1 := .ascii, j2 := [32] } =
    codesOf "Y== x" := by
  rw [codesOf_ofList]
  decide +kernel
example : renderAbbrev ⟨.y, .x, .x, .y, .lt, .le, .le⟩ .p2 { j1 := [32], p3 := .ascii } = codesOf "y <x<=y" := by
  rw [codesOf_ofList]
  decide +kernel

/-! ### Decoration words and negation markers separated by ANY white space

The theorems above fix the single literal space next to `not` / `is` (the one the code removes with the
word). The code detects the negation with `not\s+` / `\s+not` but removes the word only next to a literal
space, and removes `is` only next to a literal space: with a tab, a newline, … the word STAYS in the text
and is erased by the salvage pipeline with every other character outside `xy<=≤`. So, for formulas and
abbreviated formulas, ANY decoration text works: `P`, `Q` are arbitrary strings over white space (space,
tab, LF, VT, FF, CR), `!` and the letters of `not` / `is` in either case (`decoChar`) — unbounded, any
number of words, any white space between them, outer white space included. The result is the key, and
the flag is the property's own clause `carriesNeg`: the stripped lower-cased spelling starts with `!`, or
carries `not` followed by a white-space character, or a white-space character followed by `not`.
Derived from one normalisation lemma (`KeyDict.normalizeLow_keeps`, through `spaced_body`: every stage of the
code only deletes characters of the dead outer parts; the salvage pipeline ignores dead characters at both ends). -/

/-- **C16 (formulas, any white space).** -/
theorem C16_formula_spaced (k : Key) (hk : k ∈ allKeys) (st : FormulaStyle) (hj : st.junkOk = true)
    {P Q : Str} (hP : P.all decoChar = true) (hQ : Q.all decoChar = true) :
    normalize names (P ++ renderFormula k st ++ Q) =
      some (k.codes, carriesNeg (P ++ renderFormula k st ++ Q)) :=
  spaced_body hk (body_lower_formula k hk st (styleOk_of_junkOk hj)) hP hQ

/-- **C16 (abbreviated formulas, any white space).** -/
theorem C16_abbrev_spaced (k : Key) (hk : k ∈ allKeys) (ab : Abbrev) (ha : ab.applies k = true)
    (st : FormulaStyle) (hj : st.junkOk = true) {P Q : Str} (hP : P.all decoChar = true)
    (hQ : Q.all decoChar = true) :
    normalize names (P ++ renderAbbrev k ab st ++ Q) =
      some (k.codes, carriesNeg (P ++ renderAbbrev k ab st ++ Q)) :=
  spaced_body hk (body_lower_abbrev k hk ab ha st (styleOk_of_junkOk hj)) hP hQ

/-- **C16 (formulas, spaced decorations, explicit flag).** `d` any spaced decoration (`Spaced.ok`: outer white
space, an optional `!` followed by any white space, any number of prefix words `not` / `is` in any case each
followed by an ARBITRARY non-empty white-space string, any number of suffix words each preceded by one):
every formula spelling resolves to its key and is negated exactly when the decoration carries `!`, a prefix
`not<ws>` or a suffix `<ws>not` (`Spaced.neg`). -/
theorem C16_formula_spaced_render (k : Key) (hk : k ∈ allKeys) (st : FormulaStyle) (hj : st.junkOk = true)
    (d : Spaced) (hd : d.ok = true) :
    normalize names (renderSpaced d (renderFormula k st)) = some (k.codes, d.neg) :=
  names_keyDict.spaced_render hk (body_lower_formula k hk st (styleOk_of_junkOk hj)) d hd

/-- **C16 (abbreviated formulas, spaced decorations, explicit flag).** -/
theorem C16_abbrev_spaced_render (k : Key) (hk : k ∈ allKeys) (ab : Abbrev) (ha : ab.applies k = true)
    (st : FormulaStyle) (hj : st.junkOk = true) (d : Spaced) (hd : d.ok = true) :
    normalize names (renderSpaced d (renderAbbrev k ab st)) = some (k.codes, d.neg) :=
  names_keyDict.spaced_render hk (body_lower_abbrev k hk ab ha st (styleOk_of_junkOk hj)) d hd

attribute [local simp] Spaced.ok SpWord.ok renderSpaced Spaced.before Spaced.after Spaced.neg SpWord.isNot

/-- The negation variants in the concrete form of the single-space theorems: `not<W>F`, `F<W>not`, `is<W>F`,
`F<W>is` with `W` ANY non-empty white-space string (`c :: W` / `W ++ [c]`, `c` a white-space character). -/
theorem C16_formula_spaced_not_prefix (k : Key) (hk : k ∈ allKeys) (st : FormulaStyle) (hj : st.junkOk = true)
    {ws wN W : Str} {c : Nat} (hws : ws.all isSpace = true) (hN : lower wN = sNot) (hc : isSpace c = true)
    (hW : W.all isSpace = true) :
    normalize names (ws ++ (wN ++ c :: W) ++ renderFormula k st) = some (k.codes, true) := by
  have := C16_formula_spaced_render k hk st hj { outerL := ws, pre := [⟨wN, c :: W⟩] }
    (by simp [hws, hN, hc, hW])
  simpa [hN] using this

/-- The case `c = 32`, all spaces: `a` spaces, `not`, `b+1` spaces, formula. -/
theorem C16_formula_not_prefix_spaces (k : Key) (hk : k ∈ allKeys) (st : FormulaStyle) (hj : st.junkOk = true)
    (a b : Nat) :
    normalize names (List.replicate a 32 ++ codesOf "not" ++ List.replicate (b + 1) 32 ++ renderFormula k st) =
      some (k.codes, true) := by
  simpa [List.replicate_succ] using C16_formula_spaced_not_prefix k hk st hj (wN := codesOf "not") (c := 32)
    (spaces_ws a) rfl rfl (spaces_ws b)

theorem C16_formula_spaced_not_suffix (k : Key) (hk : k ∈ allKeys) (st : FormulaStyle) (hj : st.junkOk = true)
    {ws wN W : Str} {c : Nat} (hws : ws.all isSpace = true) (hN : lower wN = sNot) (hc : isSpace c = true)
    (hW : W.all isSpace = true) :
    normalize names (renderFormula k st ++ ((W ++ [c]) ++ wN ++ ws)) = some (k.codes, true) := by
  have := C16_formula_spaced_render k hk st hj { outerR := ws, post := [⟨wN, W ++ [c]⟩] }
    (by simp [hws, hN, hc, hW])
  simpa [hN] using this

theorem C16_formula_spaced_is_prefix (k : Key) (hk : k ∈ allKeys) (st : FormulaStyle) (hj : st.junkOk = true)
    {ws wI W : Str} {c : Nat} (hws : ws.all isSpace = true) (hI : lower wI = sIs) (hc : isSpace c = true)
    (hW : W.all isSpace = true) :
    normalize names (ws ++ (wI ++ c :: W) ++ renderFormula k st) = some (k.codes, false) := by
  have := C16_formula_spaced_render k hk st hj { outerL := ws, pre := [⟨wI, c :: W⟩] }
    (by simp [hws, hI, hc, hW, sIs])
  simpa [hI, sIs, sNot] using this

theorem C16_formula_spaced_is_suffix (k : Key) (hk : k ∈ allKeys) (st : FormulaStyle) (hj : st.junkOk = true)
    {ws wI W : Str} {c : Nat} (hws : ws.all isSpace = true) (hI : lower wI = sIs) (hc : isSpace c = true)
    (hW : W.all isSpace = true) :
    normalize names (renderFormula k st ++ ((W ++ [c]) ++ wI ++ ws)) = some (k.codes, false) := by
  have := C16_formula_spaced_render k hk st hj { outerR := ws, post := [⟨wI, W ++ [c]⟩] }
    (by simp [hws, hI, hc, hW, sIs])
  simpa [hI, sIs, sNot] using this

/-- **C16 (names, white space after `not `).** For names the code is NOT insensitive to the white space:
what is tolerated is any white space AFTER the literal space of `not ` (it is stripped after the word is
removed). Every case of the name and of `not`, any outer white space. -/
theorem C16_names_spaced (n : Codes) (k : Key) (h : (n, k) ∈ aliases) {w ws ws' wN W : Str} (hw : lower w = n)
    (hN : lower wN = sNot) (hws : ws.all isSpace = true) (hws' : ws'.all isSpace = true)
    (hW : W.all isSpace = true) :
    normalize names (ws ++ wN ++ 32 :: W ++ w ++ ws') = some (k.codes, true) :=
  names_keyDict.name_not_spaced n k h hw hN hws hws' hW

/-- **C16 (names, white space before ` not`).** Symmetrically, any white space BEFORE the literal space of a
trailing ` not`. -/
theorem C16_names_spaced_suffix (n : Codes) (k : Key) (h : (n, k) ∈ aliases) {w ws ws' wN W : Str}
    (hw : lower w = n) (hN : lower wN = sNot) (hws : ws.all isSpace = true) (hws' : ws'.all isSpace = true)
    (hW : W.all isSpace = true) :
    normalize names (ws ++ w ++ W ++ 32 :: wN ++ ws') = some (k.codes, true) :=
  names_keyDict.name_not_suffix_spaced n k h hw hN hws hws' hW

/-- **C16 (names, any white space after `!`).** -/
theorem C16_names_spaced_bang (n : Codes) (k : Key) (h : (n, k) ∈ aliases) {w ws ws' W : Str} (hw : lower w = n)
    (hws : ws.all isSpace = true) (hws' : ws'.all isSpace = true) (hW : W.all isSpace = true) :
    normalize names (ws ++ 33 :: W ++ w ++ ws') = some (k.codes, true) :=
  names_keyDict.name_bang_spaced n k h hw hws hws' hW

/-- **The limits of the code on NAMES** (not a violation of the theorems above): a white-space
character other than the literal space next to `not`, or more than one white-space character next to
`is`, makes a decorated name a `ValueError`, although the same decoration is accepted around a formula. -/
theorem C16_names_spaced_limits :
    normalize names (codesOf "not\tafter") = none ∧ normalize names (codesOf "after\tnot") = none ∧
    normalize names (codesOf "is  after") = none ∧ normalize names (codesOf "after  is") = none ∧
    normalize names (codesOf "is\tafter") = none ∧ normalize names (codesOf "not\nafter") = none ∧
    normalize names (codesOf "not  after") = some (codesOf "y≤y≤x≤x", true) ∧
    normalize names (codesOf "after  not") = some (codesOf "y≤y≤x≤x", true) ∧
    normalize names (codesOf "not\tx<y") = some (codesOf "x≤x<y≤y", true) ∧
    normalize names (codesOf "is  x<y") = some (codesOf "x≤x<y≤y", false) := by
  repeat rw [codesOf_ofList]
  decide +kernel

-- Non-vacuity: `\t Not\n\ris\x0b(x1 <= Y2)\x0c\tNOT ` is a spaced rendering of an abbreviation of `x≤x≤y≤y`, negated.
example : Spaced.ok ⟨[9, 32], none, [⟨codesOf "Not", [10, 13]⟩, ⟨codesOf "is", [11]⟩], [⟨codesOf "NOT", [12, 9]⟩], [32]⟩ = true := by
  decide +kernel
example : renderSpaced ⟨[9, 32], none, [⟨codesOf "Not", [10, 13]⟩, ⟨codesOf "is", [11]⟩], [⟨codesOf "NOT", [12, 9]⟩], [32]⟩
    (codesOf "(x1 <= Y2)") = codesOf "\t Not\n\ris\x0b(x1 <= Y2)\x0c\tNOT " := by
  rw [codesOf_ofList, codesOf_ofList, codesOf_ofList, codesOf_ofList, codesOf_ofList]
  decide +kernel
example : Spaced.neg ⟨[], some [9], [⟨codesOf "IS", [10]⟩], [], []⟩ = true := by decide +kernel
example : Spaced.neg ⟨[], none, [⟨codesOf "IS", [10]⟩], [⟨codesOf "is", [9, 9]⟩], []⟩ = false := by decide +kernel
-- Non-vacuity: decoration texts, and the flag of the property's clause on them.
example : (codesOf " Is\tNOT\n").all decoChar = true := by
  rw [codesOf_ofList]
  decide +kernel
example : (codesOf "\x0b\x0cnot").all decoChar = true := by
  rw [codesOf_ofList]
  decide +kernel
example : carriesNeg (codesOf "is\tnot\nx<y") = true := by
  rw [codesOf_ofList]
  decide +kernel
example : carriesNeg (codesOf "x<y\r\x0bNot ") = true := by
  rw [codesOf_ofList]
  decide +kernel
example : carriesNeg (codesOf "is\t\tx<y \nis") = false := by
  rw [codesOf_ofList]
  decide +kernel
example : carriesNeg (codesOf "\t!\nx<y") = true := by
  rw [codesOf_ofList]
  decide +kernel
-- `isnot x<y` carries no marker in the sense of the clause? It does: `not` followed by a space.
example : carriesNeg (codesOf "isnot x<y") = true := by
  rw [codesOf_ofList]
  decide +kernel
example : carriesNeg (codesOf "notx<y") = false := by
  rw [codesOf_ofList]
  decide +kernel
example : (codesOf "after", (⟨.y, .y, .x, .x, .le, .le, .le⟩ : Key)) ∈ aliases := by decide +kernel

end Paroxy.Props.C16
