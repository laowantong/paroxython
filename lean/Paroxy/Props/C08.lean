/-
C08 — Each span relation means exactly the chain its key spells.

`Gen.table` / `Gen.updates` are regenerated from
`/repo/paroxython/compare_spans.py` on every run by /verif/translator/gen.py, so these theorems are
re-checked against what the code says now. Names are lists of Unicode code points (`Codes`).
-/
import Paroxy.Gen.CompareSpans
import Paroxy.Gen.Manual
import Paroxy.Proofs.Rank
import Paroxy.Proofs.SpecKeys
namespace Paroxy.Props.C08
open Paroxy Paroxy.Spec

/-- The translator covered the whole source file. -/
theorem C08_translated : Gen.translatorOk = true := by decide

def keysOk : Bool :=
  let ks := Gen.table.map (·.1)
  let sk := allKeys.map Key.codes
  ks == sk || ks.isPerm sk

theorem keysOk_true : keysOk = true := by decide +kernel

/-- **C08 (keys).** The keys of the table are exactly the 162 keys (6 arrangements of `xxyy` × 27
operator triples), each once. -/
theorem C08_keys :
    (Gen.table.map (·.1)).Perm (allKeys.map Key.codes) ∧ (Gen.table.map (·.1)).Nodup ∧
      Gen.table.length = 162 := by
  have hp : (Gen.table.map (·.1)).Perm (allKeys.map Key.codes) := by
    have h := keysOk_true
    simp only [keysOk, Bool.or_eq_true, beq_iff_eq] at h
    rcases h with h | h
    · rw [h]
    · exact List.isPerm_iff.mp h
  refine ⟨hp, hp.nodup_iff.mpr allKeys_codes_nodup, ?_⟩
  rw [← List.length_map (·.1), hp.length_eq, List.length_map, allKeys_length]

/-- One entry is syntactically the chain its key spells, or agrees with it on the 256 rank
environments. -/
def entryOk (p : Codes × PyExpr) : Bool :=
  match parseKey p.1 with
  | some k => k.balanced && (p.2 == k.chain || agree p.2 k.chain)
  | none => false

theorem tableOk : Gen.table.all entryOk = true := by decide +kernel

/-- **C08 (meaning), entry-wise.** Every entry of the table is filed under one of the 162 keys and
holds of integer spans `x`, `y` exactly when the endpoints satisfy the chain that key spells —
for *all* pairs of integer spans. -/
theorem C08_meaning_entry (p : Codes × PyExpr) (hp : p ∈ Gen.table) :
    ∃ k ∈ allKeys, p.1 = k.codes ∧ ∀ x y : Span, p.2.holds x y = true ↔ k.Holds x y := by
  have h := List.all_eq_true.mp tableOk p hp
  cases hk : parseKey p.1 with
  | none => rw [entryOk, hk] at h; cases h
  | some k =>
    rw [entryOk, hk, Bool.and_eq_true, Bool.or_eq_true, beq_iff_eq] at h
    refine ⟨k, (mem_allKeys k).mpr h.1, parseKey_some hk, fun x y => ?_⟩
    rw [← Key.chain_holds]
    rcases h.2 with h1 | h2
    · rw [h1]
    · rw [PyExpr.holds, agree_sound _ _ h2]; rfl

/-- **C08 (meaning).** For every one of the 162 keys, looking the key up in the table succeeds,
and the predicate found holds for spans `x`, `y` exactly when the chain of `<`, `≤`, `=` spelled by
the key holds of the endpoints (first letter = start, second = end). -/
theorem C08_meaning (k : Key) (hk : k ∈ allKeys) :
    ∃ e, dictGet? Gen.table k.codes = some e ∧ ∀ x y : Span, e.holds x y = true ↔ k.Holds x y := by
  have hmem : k.codes ∈ Gen.table.map (·.1) :=
    C08_keys.1.mem_iff.mpr (List.mem_map_of_mem hk)
  obtain ⟨e, he⟩ := dictGet?_of_key_mem hmem
  obtain ⟨k', _, hc, hm⟩ := C08_meaning_entry (k.codes, e) (dictGet?_mem he)
  cases Key.codes_injective hc
  exact ⟨e, he, hm⟩

/-- The dictionary after the alias updates, as name ↦ expression. -/
def fullTable : Option (List (Codes × PyExpr)) := applyUpdates Gen.table Gen.updates
/-- The dictionary after the alias updates, as name ↦ key of the original table. -/
def fullNames : Option (List (Codes × Codes)) :=
  resolveUpdates (Gen.table.map fun p => (p.1, p.1)) Gen.updates

def aliasesOk : Bool :=
  match fullNames with
  | some d =>
    d.length == 181 && d.take 162 == Gen.table.map (fun p => (p.1, p.1)) &&
      (d.drop 162).isPerm (aliases.map fun (n, k) => (n, k.codes))
  | none => false

theorem aliasesOk_true : aliasesOk = true := by decide +kernel

/-- **C08 (aliases).** Resolving the `update` calls in order (Python `dict.update`: an existing
name is rebound in place, a new one appended) leaves the 162 keys untouched and adds exactly the
13 Allen names and the 6 synonyms with the keys given in the user manual: 181 entries in all. -/
theorem C08_aliases :
    ∃ d, fullNames = some d ∧ d.length = 181 ∧
      d.take 162 = Gen.table.map (fun p => (p.1, p.1)) ∧
      (d.drop 162).Perm (aliases.map fun (n, k) => (n, k.codes)) := by
  have h := aliasesOk_true
  cases hd : fullNames with
  | none => rw [aliasesOk, hd] at h; cases h
  | some d =>
    rw [aliasesOk, hd] at h
    simp only [Bool.and_eq_true, beq_iff_eq] at h
    exact ⟨d, rfl, h.1.1, h.1.2, List.isPerm_iff.mp h.2⟩

def aliasValuesOk : Bool :=
  match fullTable with
  | some d => aliases.all fun p => dictGet? d p.1 == dictGet? Gen.table p.2.codes
  | none => false

theorem aliasValuesOk_true : aliasValuesOk = true := by decide +kernel

/-- Each of the 19 names is bound to the *same predicate* as the key the manual gives for it, hence
means the chain of that key, for all integer spans. -/
theorem C08_alias_meaning (n : Codes) (k : Key) (h : (n, k) ∈ aliases) :
    ∃ d e, fullTable = some d ∧ dictGet? d n = some e ∧
      ∀ x y : Span, e.holds x y = true ↔ k.Holds x y := by
  have hv := aliasValuesOk_true
  cases hd : fullTable with
  | none => rw [aliasValuesOk, hd] at hv; cases hv
  | some d =>
    rw [aliasValuesOk, hd] at hv
    obtain ⟨e, he, hm⟩ := C08_meaning k (aliases_mem_allKeys h)
    exact ⟨d, e, rfl, (beq_iff_eq.mp (List.all_eq_true.mp hv (n, k) h)).trans he, hm⟩

def mirrorOk : Bool :=
  match fullTable with
  | some d =>
    converses.all fun (r, r') =>
      match dictGet? d r, dictGet? d r' with
      | some e, some e' => agree e e'.swap
      | _, _ => false
  | none => false

/-- The two readings of a converse name coincide: the key with `x` and `y` exchanged spells the
mirrored chain (a sanity lemma on the specification itself). -/
theorem C08_spec_swap (k : Key) (x y : Span) : k.swap.Holds x y ↔ k.Holds y x :=
  k.swap_holds x y

/-- **C08 (mirror).** Each Allen relation and its converse are mirror images:
`x R y ↔ y R' x` for all integer spans. -/
theorem C08_mirror (r r' : Codes) (h : (r, r') ∈ converses) :
    ∃ d e e', fullTable = some d ∧ dictGet? d r = some e ∧ dictGet? d r' = some e' ∧
      ∀ x y : Span, e.holds x y = e'.holds y x := by
  -- the two names are bound to the predicates of two keys that spell mirror images
  obtain ⟨k, k', hk, hk', hkk⟩ := converses_keys h
  obtain ⟨d, e, hd, he, hm⟩ := C08_alias_meaning r k hk
  obtain ⟨d', e', hd', he', hm'⟩ := C08_alias_meaning r' k' hk'
  cases Option.some.inj (hd.symm.trans hd')
  exact ⟨d, e, e', hd, he, he', fun x y =>
    Bool.eq_iff_iff.mpr ((hm x y).trans ((hkk x y).trans (hm' y x).symm))⟩

/-- The test of `agree` on the 256 rank environments that `mirrorOk` makes passes, since the
equality holds on all environments. -/
theorem mirrorOk_true : mirrorOk = true := by
  obtain ⟨d, _, _, hd, _⟩ := C08_mirror _ _ (List.mem_cons_self : _ ∈ converses)
  rw [mirrorOk, hd, List.all_eq_true]
  rintro ⟨r, r'⟩ h
  obtain ⟨d', e, e', hd', he, he', hm⟩ := C08_mirror r r' h
  cases Option.some.inj (hd.symm.trans hd')
  simp only [he, he']
  refine agree_of_eval_eq fun ρ => ?_
  have hρ : ρ = spanEnv (ρ .x0, ρ .x1) (ρ .y0, ρ .y1) := by funext v; cases v <;> rfl
  rw [e'.eval_swap, hρ, spanEnv_comp_swap]
  exact hm _ _

-- Non-vacuity: concrete instances.
example : (⟨.x, .y, .x, .y, .eq, .le, .le⟩ : Key) ∈ allKeys := by decide +kernel
example : (⟨.x, .y, .x, .y, .eq, .le, .le⟩ : Key).Holds (2, 3) (2, 7) := by decide
example : ¬ (⟨.x, .y, .x, .y, .eq, .le, .le⟩ : Key).Holds (2, 8) (2, 7) := by decide
example : (codesOf "started by", (⟨.y, .x, .y, .x, .eq, .le, .le⟩ : Key)) ∈ aliases := by decide +kernel
example : (codesOf "overlaps", codesOf "overlapped by") ∈ converses := by decide +kernel

/-- **The manual's table.** The seven rows `X name Y | Y converse X | key` of
docs/md/pipeline_documentation.md — re-read from /repo by the translator on every run
(`Gen.manualRows`) — are exactly the specification's `manualDirect` / `converses` the theorems above
are stated against: "the keys given in the user manual" is not a transcription that can drift. -/
theorem C08_manual_table :
    Gen.manualOk = true ∧
    Gen.manualRows = (manualDirectS.zip conversesS).map fun p => (codesOf p.1.1, codesOf p.2.2, p.1.2.codes) := by
  decide +kernel

end Paroxy.Props.C08
