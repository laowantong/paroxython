/-
C06 — Pipelines are monotone, order-independent and obey the documented equivalences.

Every theorem is about the model `Filter.runPipeline` / `Filter.updateFilter`, for every database,
every regex oracle and every command list; `SameSets` compares the four filter sets as sets.
-/
import Paroxy.Proofs.FilterOrder
import Paroxy.Proofs.Costs
import Paroxy.Props.C04
import Paroxy.Props.C05
namespace Paroxy.Props.C06
open Paroxy Paroxy.Filter

variable (c : Ctx) (r : Relations)

/-- **Monotone.** After every command the selection is a subset of what it was, and the imparted
knowledge and the hidden sets are supersets. -/
theorem C06_monotone (st st' : State) (cmd : Command) (h : runCommand c r st cmd = .ok st') :
    (∀ p, p ∈ st'.selected → p ∈ st.selected) ∧ (∀ t, t ∈ st.knowledge → t ∈ st'.knowledge) ∧
    (∀ t, t ∈ st.hiddenTaxa → t ∈ st'.hiddenTaxa) ∧
    (∀ p, p ∈ st.hiddenPrograms → p ∈ st'.hiddenPrograms) := by
  rw [runCommand_effect] at h
  cases he : commandEffect c r cmd with
  | error e => rw [he] at h; cases h
  | ok eff =>
    rw [he] at h; cases h
    exact ⟨fun p hp => (List.mem_filter.mp hp).1, fun t => List.mem_append_left _,
      fun t => List.mem_append_left _, fun p => List.mem_append_left _⟩

/-- **Order-independent.** Running any permutation of the commands succeeds iff the original order
does, and yields the same selection, knowledge and hidden sets. -/
theorem C06_order_independent (st : State) (cmds cmds' : List Command) (hperm : cmds'.Perm cmds) :
    ((∃ s, runPipeline c r st cmds = .ok s) ↔ ∃ s', runPipeline c r st cmds' = .ok s') ∧
    ∀ s s', runPipeline c r st cmds = .ok s → runPipeline c r st cmds' = .ok s' → SameSets s s' := by
  constructor
  · rw [runPipeline_ok_iff, runPipeline_ok_iff]
    simp only [hperm.mem_iff]
  · intro s s' h h'
    have grows : ∀ (f : Effect → List Codes) (g : State → List Codes),
        (∀ st e, g (applyEffect st e) = g st ++ f e) → ∀ x, x ∈ g s ↔ x ∈ g s' := fun f g hfg x => by
      rw [runPipeline_grows c r f g hfg cmds st s h, runPipeline_grows c r f g hfg cmds' st s' h']
      simp only [hperm.mem_iff]
    refine ⟨fun x => ?_, grows (·.learn) (·.knowledge) (fun _ _ => rfl), grows (·.hideT) (·.hiddenTaxa) (fun _ _ => rfl),
      grows (·.hideP) (·.hiddenPrograms) (fun _ _ => rfl)⟩
    rw [runPipeline_selected c r cmds st s h, runPipeline_selected c r cmds' st s' h']
    simp only [hperm.all_eq]

/-- Successive single-criterion commands. -/
def seq (op : Operation) (st : State) (cs : List Criterion) : Except Err State :=
  foldE (fun s crit => updateFilter c r s [crit] op false) st cs

/-- **`include all [c1..cn]` = n successive `include [ci]`.** -/
theorem C06_include_all_split (wf : c.WF) (st s1 s2 : State) (cs : List Criterion) (hne : cs ≠ [])
    (h1 : updateFilter c r st cs .include true = .ok s1) (h2 : seq c r .include st cs = .ok s2) :
    SameSets s1 s2 := by
  refine Narrows.sameSets (include_all_spec c wf r st s1 cs hne h1)
    (foldE_narrows (K := Meets c r) (fun st sm crit h => ?_) cs st s2 h2) fun _ _ => Iff.rfl
  exact Narrows.congr (include_any_spec c wf r st sm [crit] h) fun p _ => by
    simp only [List.mem_singleton, exists_eq_left]

/-- **`exclude [c1..cn]` = n successive `exclude [ci]`.** -/
theorem C06_exclude_split (wf : c.WF) (st s1 s2 : State) (cs : List Criterion)
    (h1 : updateFilter c r st cs .exclude false = .ok s1) (h2 : seq c r .exclude st cs = .ok s2) :
    SameSets s1 s2 := by
  refine Narrows.sameSets (exclude_any_spec c wf r st s1 cs h1)
    (foldE_narrows (K := fun crit p => ¬ ∃ q, MeetsExcl c r crit q ∧ (q = p ∨ Imports c p q))
      (fun st sm crit h => ?_) cs st s2 h2) fun p _ => ?_
  · exact Narrows.congr (exclude_any_spec c wf r st sm [crit] h) fun p _ => by
      simp only [List.mem_singleton, exists_eq_left]
  · -- dropping what meets some criterion = dropping, for each criterion, what meets it
    exact ⟨fun hn crit hc ⟨q, hq, ho⟩ => hn ⟨q, ⟨crit, hc, hq⟩, ho⟩,
      fun hn ⟨q, ⟨crit, hc, hq⟩, ho⟩ => hn crit hc ⟨q, hq, ho⟩⟩

/-- **`hide` never changes the selection or the knowledge** (hence no cost, see C07). -/
theorem C06_hide_neutral (st st' : State) (pats : List Codes) (qa : Bool)
    (h : updateFilter c r st (pats.map .pattern) .hide qa = .ok st') :
    st'.selected = st.selected ∧ st'.knowledge = st.knowledge :=
  let ⟨hs, hk, _⟩ := C04.C04_hide c r st st' pats qa h
  ⟨hs, hk⟩

/-- The hypotheses of the `meta/program` equivalences, made precise: no imports; every program
features exactly one occurrence of a taxon matched by the `meta/program` pattern `pm`, and that
occurrence is in relation `pred` (= contains) with every occurrence of the program; the pattern
`X` matches nothing that `pm` matches; the selection only holds programs. -/
structure MetaHyp (pm X : Codes) (pred : Span → Span → Bool) (st : State) : Prop where
  noImports : ∀ p q, ¬ Imports c p q
  metaOcc : ∀ p, IsProgram c p → ∃ tm s, c.orc.matchTaxon pm tm = true ∧ Occ c p tm 0 s ∧
    (∀ t j s', c.orc.matchTaxon pm t = true → Occ c p t j s' → t = tm ∧ j = 0) ∧
    (∀ t j s', Occ c p t j s' → pred s s' = true)
  disjoint : ∀ t, c.orc.matchTaxon X t = true → c.orc.matchTaxon pm t = false
  selPrograms : ∀ p, p ∈ st.selected → IsProgram c p

theorem negTriple_iff_not_featuring (pm X : Codes) (pred : Span → Span → Bool) (st : State)
    (H : MetaHyp c pm X pred st) (p : Codes) (hp : IsProgram c p) :
    MeetsNegTriple c pm pred X p ↔ ¬ ∃ t, c.orc.matchTaxon X t = true ∧ Features c p t := by
  obtain ⟨tm, s, hm, ho, huniq, hall⟩ := H.metaOcc p hp
  constructor
  · rintro ⟨t1, i, s1, hm1, ho1, hnone⟩ ⟨t, hX, j, s', hoX⟩
    obtain ⟨rfl, rfl⟩ := huniq t1 i s1 hm1 ho1
    have hs : s1 = s := by
      obtain ⟨rec, spans, hr, hs1, hi1⟩ := ho1
      obtain ⟨rec', spans', hr', hs2, hi2⟩ := ho
      rw [hr] at hr'; cases hr'; rw [hs1] at hs2; cases hs2; rw [hi1] at hi2; exact Option.some.inj hi2
    subst hs
    have hne : ¬(t1 = t ∧ 0 = j) := by
      rintro ⟨rfl, _⟩
      rw [H.disjoint t1 hX] at hm; cases hm
    have := hnone t j s' hX hoX hne
    rw [hall t j s' hoX] at this; cases this
  · intro hno
    exact ⟨tm, 0, s, hm, ho, fun t2 j s2 hX ho2 _ => absurd ⟨t2, hX, j, s2, ho2⟩ hno⟩

namespace Example

def M : Codes := [109]   -- "m" stands for meta/program
def X : Codes := [120]
def P : Codes := [112]

def exCtx : Ctx := {
  orc := { matchTaxon := fun p t => p == t, matchProg := fun p t => p == t }
  programs := [(P, [(M, [((1, 3) : Span)]), (X, [(2, 2)])])]
  taxa := [(M, [P]), (X, [P])]
  exportations := [(P, [])] }

def contains (s s' : Span) : Bool := decide (s.1 ≤ s'.1 ∧ s'.2 ≤ s.2)

theorem occ_cases (t : Codes) (j : Nat) (s' : Span) (ho : Occ exCtx P t j s') :
    (t = M ∧ j = 0 ∧ s' = (1, 3)) ∨ (t = X ∧ j = 0 ∧ s' = (2, 2)) := by
  obtain ⟨spans, h2, h3⟩ := (occ_iff exCtx P _ rfl t j s').mp ho
  have one : ∀ {a : Span}, [a][j]? = some s' → j = 0 ∧ s' = a := fun h => by
    cases j with
    | zero => exact ⟨rfl, (Option.some.inj h).symm⟩
    | succ j => cases h
  unfold dictGet? at h2
  split at h2
  · rename_i hM; cases h2; exact Or.inl ⟨hM.symm, one h3⟩
  · unfold dictGet? at h2
    split at h2
    · rename_i hX; cases h2; exact Or.inr ⟨hX.symm, one h3⟩
    · cases h2

/-- Non-vacuity of `MetaHyp` (hence of the two equivalences below): one program `p` with `m` (standing
for `meta/program`) on lines 1-3 and `x` on line 2, literal oracle, the relation `contains`. -/
theorem metaHyp_example : MetaHyp exCtx M X contains (initState exCtx.programs) where
  noImports := by
    intro p q h
    unfold Imports at h
    by_cases hq : P = q
    · subst hq; simp [exCtx, dictGet?, P] at h
    · simp [exCtx, dictGet?, hq] at h
  metaOcc := by
    intro p hp
    have hp' : p = P := by simpa [IsProgram, exCtx] using hp
    subst hp'
    refine ⟨M, (1, 3), by decide, ⟨_, _, rfl, rfl, rfl⟩, ?_, ?_⟩
    · intro t j s' hm ho
      have ht : M = t := beq_iff_eq.mp hm
      subst ht
      rcases occ_cases _ j s' ho with ⟨_, hj, _⟩ | ⟨hx, _, _⟩
      · exact ⟨rfl, hj⟩
      · exact absurd hx (by decide)
    · intro t j s' ho
      rcases occ_cases t j s' ho with ⟨_, _, hs⟩ | ⟨_, _, hs⟩ <;> subst hs <;> decide
  disjoint := by
    intro t h
    have ht : X = t := beq_iff_eq.mp h
    subst ht
    decide
  selPrograms := by
    intro p hp
    exact hp

end Example

open Paroxy.Spec Paroxy.Spec.NP Paroxy.NP in
/-- The relation of the documented equivalences: `not contains` denotes, NEGATED, the key `x≤y≤y≤x`
(C16 for the spelling, C08 for the meaning), i.e. `pred` of `MetaHyp` is "the span of `meta/program`
contains the other span". -/
theorem C06_not_contains :
    ∃ pred, C05.genRelations.predicate (codesOf "not contains") = .ok (pred, true) ∧
      ∀ s s' : Span, pred s s' = true ↔ (⟨.x, .y, .y, .x, .le, .le, .le⟩ : Key).Holds s s' := by
  have h : (codesOf "contains", (⟨.x, .y, .y, .x, .le, .le, .le⟩ : Key)) ∈ aliases := by decide +kernel
  have hd : ((codesOf "not ", codesOf "", true) : Str × Str × Bool) ∈ decorations := by decide +kernel
  have := C05.C05_named_relation (codesOf "contains") _ h _ hd []
  have e : codesOf "not " ++ renderName (codesOf "contains") [] ++ codesOf "" = codesOf "not contains" := by
    -- evaluating `codesOf` on a literal decodes its UTF-8 bytes, which is slow in the kernel;
    -- `codesOf_ofList` reads the characters off the literal instead
    rw [codesOf_ofList, codesOf_ofList, codesOf_ofList, codesOf_ofList]
    decide +kernel
  simp only [e] at this
  exact this

open Paroxy.Spec in
example : (⟨.x, .y, .y, .x, .le, .le, .le⟩ : Key).Holds (1, 5) (2, 3) ∧
    ¬ (⟨.x, .y, .y, .x, .le, .le, .le⟩ : Key).Holds (2, 3) (1, 5) := by decide

/-- **`include [X]` = `exclude [(meta/program, not contains, X)]`**, under `MetaHyp`. -/
theorem C06_include_iff_exclude_not (wf : c.WF) (pm X raw : Codes) (pred : Span → Span → Bool)
    (st s1 s2 : State) (hX : endsWithPy X = false) (hp : r.predicate raw = .ok (pred, true))
    (H : MetaHyp c pm X pred st)
    (h1 : updateFilter c r st [.pattern X] .include false = .ok s1)
    (h2 : updateFilter c r st [.triple pm raw X] .exclude false = .ok s2) : SameSets s1 s2 := by
  refine Narrows.sameSets (include_any_spec c wf r st s1 _ h1) (exclude_any_spec c wf r st s2 _ h2)
    fun p hs => ?_
  have hneg := negTriple_iff_not_featuring c pm X pred st H p (H.selPrograms p hs)
  simp only [List.mem_singleton, exists_eq_left]
  unfold MeetsExcl Meets
  simp only [hX, hp, Bool.false_eq_true, if_false]
  rw [drop_iff_of_noImports H.noImports, hneg]
  exact Classical.not_not.symm

/-- **`exclude [X]` = `include [(meta/program, not contains, X)]`**, under `MetaHyp`. -/
theorem C06_exclude_iff_include_not (wf : c.WF) (pm X raw : Codes) (pred : Span → Span → Bool)
    (st s1 s2 : State) (hX : endsWithPy X = false) (hp : r.predicate raw = .ok (pred, true))
    (H : MetaHyp c pm X pred st)
    (h1 : updateFilter c r st [.pattern X] .exclude false = .ok s1)
    (h2 : updateFilter c r st [.triple pm raw X] .include false = .ok s2) : SameSets s1 s2 := by
  refine Narrows.sameSets (exclude_any_spec c wf r st s1 _ h1) (include_any_spec c wf r st s2 _ h2)
    fun p hs => ?_
  have hneg := negTriple_iff_not_featuring c pm X pred st H p (H.selPrograms p hs)
  simp only [List.mem_singleton, exists_eq_left]
  unfold MeetsExcl Meets
  simp only [hX, hp, Bool.false_eq_true, if_false]
  rw [drop_iff_of_noImports H.noImports, hneg]
  exact not_congr ⟨fun h => h.elim id fun ⟨_, _, hi⟩ => absurd hi (H.noImports _ _), Or.inl⟩

/-- **Order-independent, as lists.** When the initial selection has no duplicate (it is the key list of
the database), any permutation of the commands yields the very same selection *list* — not only the
same set — so that anything computed from it in order (the ranking, the report) is the same. -/
theorem C06_selection_order_independent (st s s' : State) (cmds cmds' : List Command)
    (hperm : cmds'.Perm cmds) (hn : st.selected.Nodup)
    (h : runPipeline c r st cmds = .ok s) (h' : runPipeline c r st cmds' = .ok s') :
    s.selected = s'.selected := by
  have _ := hn
  rw [runPipeline_selected c r cmds st s h, runPipeline_selected c r cmds' st s' h']
  simp only [hperm.all_eq]

/-- **Costs are order-independent.** After any permutation of the commands, every taxon and every
program record has the same learning cost, and the assessment of the final selection (the ranked
`(cost, path)` list of C07) is the same list. -/
theorem C06_costs_order_independent (strat : Costs.Strategy) (progs : List (Codes × TaxaSpans))
    (st s s' : State) (cmds cmds' : List Command)
    (hperm : cmds'.Perm cmds) (hn : st.selected.Nodup)
    (h : runPipeline c r st cmds = .ok s) (h' : runPipeline c r st cmds' = .ok s') :
    (∀ t, Costs.taxonCost strat s.knowledge t = Costs.taxonCost strat s'.knowledge t) ∧
    (∀ rec, Costs.programCost strat s.knowledge rec = Costs.programCost strat s'.knowledge rec) ∧
    Costs.assess strat progs s.knowledge s.selected = Costs.assess strat progs s'.knowledge s'.selected := by
  have hk := ((C06_order_independent c r st cmds cmds' hperm).2 s s' h h').2.1
  refine ⟨Costs.taxonCost_congr strat _ _ hk, Costs.programCost_congr strat _ _ hk, ?_⟩
  rw [C06_selection_order_independent c r st s s' cmds cmds' hperm hn h h']
  exact Costs.assess_congr strat progs _ _ hk _

end Paroxy.Props.C06
