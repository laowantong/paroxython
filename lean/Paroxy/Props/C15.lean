/-
C15 — The flat AST is a faithful, deterministic encoding of the syntax tree.

Property theorems only, on the tree model of `Paroxy/Model/FlatAst.lean` (`Val`; the harness exports
the real `ast` tree into it and compares `flatten_ast` with the model line by line).
Vocabulary: `dumpS` = `flatten_node` with the hash factory as state; `dumpP h` = the same dump for a
given hash function; `entries` = pre-order enumeration of the tree with addresses (child numbers:
fields from 0, list items from 1) and name paths; `flattenAst` = reset, dump, post-process.
-/
import Paroxy.Proofs.FlatPath
import Paroxy.Proofs.FlatHash
import Paroxy.Proofs.FlatEntries
import Paroxy.Proofs.FlatTweaks
import Paroxy.Proofs.FlatAlias
import Paroxy.Proofs.FlatBackport
import Paroxy.Proofs.FlatNeg
import Paroxy.Proofs.FlatEscape
import Paroxy.Proofs.FlatCtx
import Paroxy.Proofs.FlatFuse
import Paroxy.Proofs.FlatInjective
namespace Paroxy.Props.C15
open Paroxy.Flat

/-- What `flatten_ast` computes: the post-processing of the *pure* dump of the tree (after the
on-the-fly reordering / renaming), hashes numbered by first occurrence from a fresh factory. -/
theorem C15_flatten_eq (cfg : Cfg) (s : HashState) (t : Val) :
    (flattenAst cfg s t).1 = postProcess (dumpP (hashFn (prep cfg t)) [] [] (prep cfg t)) := by
  simp [flattenAst, flattenAstG, startState, dumpS_reset]

/-- **C15 (pre-order, exactly once).** The dump of any tree is the concatenation, over the pre-order
enumeration of the tree, of the lines of each entry — and the enumeration contains every node, list
and scalar of the tree exactly once, under its own address and name path:
* an entry is in the enumeration iff its address leads, in the tree, to a value with exactly that
  local content (type / hash source / line number, or list length, or scalar repr) reached through
  exactly those names;
* no address occurs twice;
* addresses increase strictly in lexicographic order (pre-order). -/
theorem C15_preorder_once (h : Str → Str) (v : Val) :
    dumpP h [] [] v = (entries [] [] v).flatMap (Entry.lines h) ∧
    (∀ e : Entry, e ∈ entries [] [] v ↔
      ∃ w, v.at? e.addr = some w ∧ v.namesAt? e.addr = some e.names ∧ e.item = w.item) ∧
    ((entries [] [] v).map (·.addr)).Nodup ∧
    (entries [] [] v).Pairwise (fun a b => a.addr < b.addr) := by
  refine ⟨dumpP_eq_entries h [] [] v, ?_, entries_addr_nodup [] [] v, entries_sorted [] [] v⟩
  intro e
  rw [mem_entries_iff]
  constructor
  · rintro ⟨q, ns, w, hat, rfl⟩
    exact ⟨w, by simpa using ((at_iff v q ns w).mp hat).1, by simpa using ((at_iff v q ns w).mp hat).2, rfl⟩
  · rintro ⟨w, h1, h2, h3⟩
    refine ⟨e.addr, e.names, w, (at_iff v _ _ w).mpr ⟨h1, h2⟩, ?_⟩
    cases e; simp_all

example : (entries [] [] (.node cs!"Expr" false [] (some 1)
    [(cs!"value", .list false [.scalar cs!"1" .num])])).map (·.addr) = [[], [0], [0, 1]] := by decide +kernel

/-- **C15 (path code).** The path printed in `_pos` before `[2:]` — child numbers in decimal, each
followed by a hyphen — is a prefix-free code: one encoding is a string prefix of another iff the
first address is a prefix of the second. -/
theorem C15_path_code (p q : List Nat) : encPath p <+: encPath q ↔ p <+: q :=
  encPath_prefix_iff p q

/-- **C15 (path ⇔ nesting).** For two positions of a tree lying under the same root field `k`
(one decimal digit: for a `Module` all positioned nodes are under field 0, `body`), the path shown
in the `_pos` of the first is a string prefix of the path shown in the `_pos` of the second **iff**
the second value is nested in the first, i.e. is reached from it by the remaining child steps. -/
theorem C15_path_nesting (v : Val) (k : Nat) (hk : k < 10) (p1 p2 : List Nat) (n1 n2 : Val)
    (h1 : v.at? (k :: p1) = some n1) (h2 : v.at? (k :: p2) = some n2) :
    posPath (k :: p1) <+: posPath (k :: p2) ↔ ∃ q, p2 = p1 ++ q ∧ n1.at? q = some n2 := by
  rw [posPath_cons hk, posPath_cons hk, encPath_prefix_iff]
  constructor
  · rintro ⟨q, rfl⟩
    refine ⟨q, rfl, ?_⟩
    have := Val.at?_append v (k :: p1) q
    rw [List.cons_append, h2, h1] at this
    simpa using this.symm
  · rintro ⟨q, rfl, _⟩
    exact ⟨q, rfl⟩

example : posPath [0, 3, 1] = cs!"3-1-" ∧ posPath [0, 3, 12, 0] = cs!"3-12-0-" := by decide +kernel

/-- Non-vacuity of the hypotheses of `C15_path_nesting`: in `Module(body=[Expr(value=Name)])` the `Expr`
is at `[0, 1]`, the `Name` at `[0, 1, 0]`; the path of the first (`1-`) is a prefix of the path of the
second (`1-0-`). -/
example :
    let t : Val := .node cs!"Module" false [] none
      [(cs!"body", .list false [.node cs!"Expr" false [] (some 1)
        [(cs!"value", .node cs!"Name" true cs!"Name(id='x')" (some 1) [])]])]
    (t.at? [0, 1]).isSome = true ∧ (t.at? [0, 1, 0]).isSome = true ∧
      posPath [0, 1] = cs!"1-" ∧ posPath [0, 1, 0] = cs!"1-0-" := by decide +kernel

/-- The root itself (empty path) contains everything, and its shown path is empty. -/
theorem C15_path_root (p : List Nat) : posPath [] <+: posPath p := by simp [posPath, encPath]

/-- **C15 (hash).** Within one flattening, two expression nodes of the tree get the same `_hash`
text iff the context-free reprs the code hashes for them are equal (the counter never reuses a
number, `0x%04x` is injective even beyond four digits). -/
theorem C15_hash (t : Val) (p1 p2 : List Nat) {ty1 ty2 r1 r2 : Str} {ln1 ln2 : Option Nat}
    {fs1 fs2 : List (Str × Val)}
    (h1 : t.at? p1 = some (.node ty1 true r1 ln1 fs1)) (h2 : t.at? p2 = some (.node ty2 true r2 ln2 fs2)) :
    hashFn t r1 = hashFn t r2 ↔ r1 = r2 := by
  obtain ⟨ns1, hn1⟩ : ∃ ns, At t p1 ns (.node ty1 true r1 ln1 fs1) := at_exists h1
  obtain ⟨ns2, hn2⟩ : ∃ ns, At t p2 ns (.node ty2 true r2 ln2 fs2) := at_exists h2
  exact hashFn_eq_iff t (mem_exprReprs_of_at hn1) (mem_exprReprs_of_at hn2)

/-- **C15 (hash, structural form — one direction).** In a tree whose expression nodes carry their own
context-free dump as hash source (`reprsAreDumps`: `Type(field=value, …)` without `ctx` and without the
optional fields that are `None` — checked by the driver on every real expression), two expression nodes
that are **the same expression up to load/store context** (`sameUpToCtx`: same types, field names and
terminal values once the `ctx` fields are removed) get the same `_hash`.
The converse — different expressions get different hashes — is `C15_hash_iff` below (it needs the injectivity
of Python's `repr`-based dump text: `C15_dump_injective`, under `wfDump`). -/
theorem C15_hash_structural (t : Val) (hd : reprsAreDumps t = true) (p1 p2 : List Nat)
    {ty1 ty2 r1 r2 : Str} {ln1 ln2 : Option Nat} {fs1 fs2 : List (Str × Val)}
    (h1 : t.at? p1 = some (.node ty1 true r1 ln1 fs1)) (h2 : t.at? p2 = some (.node ty2 true r2 ln2 fs2))
    (hs : sameUpToCtx (.node ty1 true r1 ln1 fs1) (.node ty2 true r2 ln2 fs2) = true) :
    hashFn t r1 = hashFn t r2 := by
  rw [repr_eq_dumpNoCtx_of_at hd h1, repr_eq_dumpNoCtx_of_at hd h2, dumpNoCtx_of_sameUpToCtx hs]

/-- Non-vacuity: `a[i]` stored and `a[i]` loaded are the same expression up to context, and the dump of
the first is `Subscript(value=Name(id='a'), slice=Name(id='i'))`. -/
example :
    let sub (c : Str) : Val := .node cs!"Subscript" true [] (some 1)
      [(cs!"value", .node cs!"Name" true [] (some 1) [(cs!"id", .scalar cs!"'a'" .str), (cs!"ctx", .node cs!"Load" false [] none [])]),
       (cs!"slice", .node cs!"Name" true [] (some 1) [(cs!"id", .scalar cs!"'i'" .str), (cs!"ctx", .node cs!"Load" false [] none [])]),
       (cs!"ctx", .node c false [] none [])]
    sameUpToCtx (sub cs!"Store") (sub cs!"Load") = true ∧
      dumpNoCtx (sub cs!"Store") = cs!"Subscript(value=Name(id='a'), slice=Name(id='i'))" := by decide +kernel

/-! ### The converse: the dump text is injective, so different expressions get different hashes

`wfDump` (Spec/FlatDump.lean) is what makes the text of `ast.dump` unambiguous: type and field names without
any of the characters of the syntax (`( ) [ ] , =`, space, quotes — identifiers), terminal reprs that are either
a Python string / bytes literal (same quote at both ends, every inner quote of that kind or backslash escaped)
or a non-empty delimiter-free token (`12`, `-1`, `1e+22`, `inf`, `1j`, `None`, `True`, `Ellipsis`). The driver
evaluates it on every real tree (`c15.wf_dump`). `eraseCtx` removes from a tree exactly what `dumpNoCtx`
(= `remove_context("", ast.dump(node))`) does not print — the `ctx` fields and the optional fields that are
`None` — and `sameExpr a b = sameShape (eraseCtx a) (eraseCtx b)`: same types, field names and terminal values
on what remains. -/

/-- **C15 (the dump text is injective).** Two well-formed trees with the same context-free dump text are the same
tree once the unprinted fields are erased: same types, same field names, same terminal reprs, same list lengths
(`sameShape` ignores only what the text never shows: positions, stored hash sources, flags). Direct structural
induction on the two trees with a continuation (prefix-freeness: `Paroxy.Flat.dump_inj`). -/
theorem C15_dump_injective (t1 t2 : Val) (w1 : wfDump t1 = true) (w2 : wfDump t2 = true)
    (h : dumpNoCtx t1 = dumpNoCtx t2) : sameShape (eraseCtx t1) (eraseCtx t2) = true :=
  dumpNoCtx_injective w1 w2 h

/-- … and conversely the dump text is a function of the erased tree (that direction needs no `wfDump`:
`dumpNoCtx_of_sameExpr`). -/
theorem C15_dump_iff (t1 t2 : Val) (w1 : wfDump t1 = true) (w2 : wfDump t2 = true) :
    dumpNoCtx t1 = dumpNoCtx t2 ↔ sameExpr t1 t2 = true :=
  dumpNoCtx_eq_iff w1 w2

/-- **C15 (hash, both directions).** Within one flattening (hash function of the tree from the reset), in a
well-formed tree (`wfDump`) whose expression nodes carry their own context-free dump as hash source
(`reprsAreDumps`), two expression nodes get the same `_hash` **iff** they are the same expression up to
load/store context (`sameExpr`). -/
theorem C15_hash_iff (t : Val) (hw : wfDump t = true) (hd : reprsAreDumps t = true) (p1 p2 : List Nat)
    {ty1 ty2 r1 r2 : Str} {ln1 ln2 : Option Nat} {fs1 fs2 : List (Str × Val)}
    (h1 : t.at? p1 = some (.node ty1 true r1 ln1 fs1)) (h2 : t.at? p2 = some (.node ty2 true r2 ln2 fs2)) :
    hashFn t r1 = hashFn t r2 ↔ sameExpr (.node ty1 true r1 ln1 fs1) (.node ty2 true r2 ln2 fs2) = true := by
  obtain ⟨ns1, hn1⟩ := at_exists h1
  obtain ⟨ns2, hn2⟩ := at_exists h2
  have e1 := repr_eq_dumpNoCtx_of_at hd h1
  have e2 := repr_eq_dumpNoCtx_of_at hd h2
  rw [C15_hash t p1 p2 h1 h2, ← dumpNoCtx_eq_iff (wfDump_of_at hn1 hw) (wfDump_of_at hn2 hw)]
  constructor
  · intro h; rw [← e1, ← e2]; exact h
  · intro h; rw [e1, e2]; exact h

/-- **C15 (hash, contrapositive of `C15_hash_iff`).** Two expression nodes that are not the same expression up to
context (`sameExpr`) get different `_hash` texts. `sameUpToCtx`, the relation of `C15_hash_structural`, compares
*all* the non-`ctx` fields, absent optional ones included, and implies `sameExpr` (`C15_sameExpr_of_sameUpToCtx`);
the two coincide on trees in which nodes of one type have the same field names (every real tree: the harness
compares them on every pair of expressions of every exported tree, `c15.wf_dump`); on arbitrary `Val` trees
`sameExpr` is the coarser one, and it is the exact one (`C15_sameUpToCtx_too_fine`). -/
theorem C15_hash_converse (t : Val) (hw : wfDump t = true) (hd : reprsAreDumps t = true) (p1 p2 : List Nat)
    {ty1 ty2 r1 r2 : Str} {ln1 ln2 : Option Nat} {fs1 fs2 : List (Str × Val)}
    (h1 : t.at? p1 = some (.node ty1 true r1 ln1 fs1)) (h2 : t.at? p2 = some (.node ty2 true r2 ln2 fs2))
    (hne : sameExpr (.node ty1 true r1 ln1 fs1) (.node ty2 true r2 ln2 fs2) = false) :
    hashFn t r1 ≠ hashFn t r2 := by
  intro h
  rw [(C15_hash_iff t hw hd p1 p2 h1 h2).mp h] at hne
  cases hne

/-- `sameUpToCtx` (the relation of `C15_hash_structural`) is included in `sameExpr` on well-formed trees. -/
theorem C15_sameExpr_of_sameUpToCtx (a b : Val) (wa : wfDump a = true) (wb : wfDump b = true)
    (h : sameUpToCtx a b = true) : sameExpr a b = true :=
  dumpNoCtx_injective wa wb (dumpNoCtx_of_sameUpToCtx h)

/-- On arbitrary `Val` trees `sameUpToCtx` is strictly finer than "same hashed text": a node with an optional
field that is `None` and the same node without that field print the same text (`Foo(b=1)`), hence get the same
hash, and are not `sameUpToCtx`. (No real tree contains such a pair: a class has one list of fields.) This is why
`C15_hash_iff` is stated with `sameExpr`. -/
theorem C15_sameUpToCtx_too_fine :
    ∃ a b : Val, wfDump a = true ∧ wfDump b = true ∧ dumpNoCtx a = dumpNoCtx b ∧ sameExpr a b = true ∧
      sameUpToCtx a b = false :=
  ⟨.node cs!"Foo" true [] none [(cs!"a", .scalar cs!"None" .nameConst), (cs!"b", .scalar cs!"1" .num)],
   .node cs!"Foo" true [] none [(cs!"b", .scalar cs!"1" .num)], by decide +kernel⟩

/-- **C15 (hash ⇔ same expression up to load/store context, in the vocabulary of the property).** If moreover the
tree has one list of field names per node type (`conforms sch`, for some schema `sch` — every real tree has: an `ast`
class has one `_fields` tuple; the driver evaluates it with the schema read off the tree itself), then the relation
is `sameUpToCtx`, the one of `C15_hash_structural`: within one flattening two expression nodes get the same `_hash`
**iff** they have the same types, field names and terminal values once the `ctx` fields are removed. -/
theorem C15_hash_iff_sameUpToCtx (t : Val) (sch : List (Str × List Str)) (hw : wfDump t = true)
    (hd : reprsAreDumps t = true) (hs : conforms sch t = true) (p1 p2 : List Nat)
    {ty1 ty2 r1 r2 : Str} {ln1 ln2 : Option Nat} {fs1 fs2 : List (Str × Val)}
    (h1 : t.at? p1 = some (.node ty1 true r1 ln1 fs1)) (h2 : t.at? p2 = some (.node ty2 true r2 ln2 fs2)) :
    hashFn t r1 = hashFn t r2 ↔ sameUpToCtx (.node ty1 true r1 ln1 fs1) (.node ty2 true r2 ln2 fs2) = true := by
  obtain ⟨ns1, hn1⟩ := at_exists h1
  obtain ⟨ns2, hn2⟩ := at_exists h2
  constructor
  · intro h
    exact stripShape_of_eraseShape sch _ _ (conforms_of_at hn1 hs) (conforms_of_at hn2 hs)
      ((C15_hash_iff t hw hd p1 p2 h1 h2).mp h)
  · exact C15_hash_structural t hd p1 p2 h1 h2

/-- Non-vacuity of `conforms`: a tuple of two slices `x[:2]` (lower absent) and `x[1:]` (upper absent), all three
fields present in each `Slice` node as in a real tree; the schema is the one read off the tree. The two slices are
not `sameUpToCtx`; `Foo(a=None, b=1)` next to `Foo(b=1)` does not conform to any schema. -/
example :
    let mk (ty : Str) (fs : List (Str × Val)) : Val := .node ty true (dumpNoCtx (.node ty true [] none fs)) none fs
    let none : Val := .scalar cs!"None" .nameConst
    let k (r : Str) : Val := mk cs!"Constant" [(cs!"value", .scalar r .num), (cs!"kind", none)]
    let a := mk cs!"Slice" [(cs!"lower", none), (cs!"upper", k cs!"2"), (cs!"step", none)]
    let b := mk cs!"Slice" [(cs!"lower", k cs!"1"), (cs!"upper", none), (cs!"step", none)]
    let t := mk cs!"Tuple" [(cs!"elts", .list false [a, b]), (cs!"ctx", .node cs!"Load" false [] Option.none [])]
    let bad : Val := .list false [.node cs!"Foo" true [] Option.none [(cs!"a", none), (cs!"b", .scalar cs!"1" .num)],
      .node cs!"Foo" true [] Option.none [(cs!"b", .scalar cs!"1" .num)]]
    wfDump t = true ∧ reprsAreDumps t = true ∧ conforms (schemaOf t) t = true ∧
      dumpNoCtx a = cs!"Slice(upper=Constant(value=2))" ∧ dumpNoCtx b = cs!"Slice(lower=Constant(value=1))" ∧
      sameUpToCtx a b = false ∧ sameExpr a b = false ∧ hashFn t (dumpNoCtx a) ≠ hashFn t (dumpNoCtx b) ∧
      conforms (schemaOf bad) bad = false := by decide +kernel

/-- Non-vacuity, shared prefix: `f(x)` and `f(x, y)` in one tuple. The tree is well-formed, its hash sources are
its dumps (`Call(func=Name(id='f'), args=[Name(id='x')], keywords=[])` is a proper prefix-sharing sibling of the
other), the two calls are not the same expression and get different hashes; the two `x` get the same. -/
example :
    let mk (ty : Str) (fs : List (Str × Val)) : Val := .node ty true (dumpNoCtx (.node ty true [] none fs)) none fs
    let nm (x c : Str) : Val := mk cs!"Name" [(cs!"id", .scalar x .str), (cs!"ctx", .node c false [] none [])]
    let call (args : List Val) : Val :=
      mk cs!"Call" [(cs!"func", nm cs!"'f'" cs!"Load"), (cs!"args", .list false args), (cs!"keywords", .list false [])]
    let a := call [nm cs!"'x'" cs!"Load"]
    let b := call [nm cs!"'x'" cs!"Load", nm cs!"'y'" cs!"Load"]
    let t := mk cs!"Tuple" [(cs!"elts", .list false [a, b]), (cs!"ctx", .node cs!"Load" false [] none [])]
    wfDump t = true ∧ reprsAreDumps t = true ∧ (t.at? [0, 1]).isSome = true ∧ (t.at? [0, 2]).isSome = true ∧
      dumpNoCtx a = cs!"Call(func=Name(id='f'), args=[Name(id='x')], keywords=[])" ∧
      dumpNoCtx b = cs!"Call(func=Name(id='f'), args=[Name(id='x'), Name(id='y')], keywords=[])" ∧
      sameExpr a b = false ∧ hashFn t (dumpNoCtx a) ≠ hashFn t (dumpNoCtx b) ∧
      sameExpr (nm cs!"'x'" cs!"Load") (nm cs!"'x'" cs!"Store") = true := by decide +kernel

/-- Non-vacuity, a string that looks like a dump: the constant `"Name(id='x')"` (Python writes it with double
quotes) and the node `Name(id='x')` in the same field of the same type are told apart — as are the constant
`'a, b'` and two items `a`, `b`; all the trees are well-formed. -/
example :
    let k (v : Val) : Val := .node cs!"Constant" true [] none [(cs!"value", v)]
    let s := k (.scalar cs!"\"Name(id='x')\"" .str)
    let n := k (.node cs!"Name" true [] none [(cs!"id", .scalar cs!"'x'" .str)])
    let l1 : Val := .list false [.scalar cs!"'a, b'" .str]
    let l2 : Val := .list false [.scalar cs!"a" .num, .scalar cs!"b" .num]
    wfDump s = true ∧ wfDump n = true ∧ wfDump l1 = true ∧ wfDump l2 = true ∧
      dumpNoCtx s = cs!"Constant(value=\"Name(id='x')\")" ∧ dumpNoCtx n = cs!"Constant(value=Name(id='x'))" ∧
      sameExpr s n = false ∧ sameExpr l1 l2 = false ∧ dumpNoCtx l1 ≠ dumpNoCtx l2 := by decide +kernel

/-- Non-vacuity, twins: the set `{e}` and the f-string `f"{e}"` have one unparsed text and are
different expressions — different dumps, different hashes. Also: escaped quotes and backslashes inside literals
(`'it\'s"'`, `'\\'`, `b'\'"'`), tokens (`-1`, `1e+22`, `infj`, `Ellipsis`) are well-formed; an unescaped inner
quote, a dangling backslash, a token with a space or a parenthesis (`(1+2j)`) are not. -/
example :
    let mk (ty : Str) (fs : List (Str × Val)) : Val := .node ty true (dumpNoCtx (.node ty true [] none fs)) none fs
    let e : Val := mk cs!"Name" [(cs!"id", .scalar cs!"'e'" .str), (cs!"ctx", .node cs!"Load" false [] none [])]
    let a := mk cs!"Set" [(cs!"elts", .list false [e])]
    let b := mk cs!"JoinedStr" [(cs!"values", .list false [mk cs!"FormattedValue"
      [(cs!"value", e), (cs!"conversion", .scalar cs!"-1" .num), (cs!"format_spec", .scalar cs!"None" .nameConst)]])]
    let t := mk cs!"Tuple" [(cs!"elts", .list false [a, b]), (cs!"ctx", .node cs!"Load" false [] none [])]
    wfDump t = true ∧ reprsAreDumps t = true ∧ sameExpr a b = false ∧
      dumpNoCtx b = cs!"JoinedStr(values=[FormattedValue(value=Name(id='e'), conversion=-1)])" ∧
      hashFn t (dumpNoCtx a) ≠ hashFn t (dumpNoCtx b) ∧
      wfScalar cs!"'it\\'s\"'" = true ∧ wfScalar cs!"'\\\\'" = true ∧ wfScalar cs!"b'\\'\"'" = true ∧
      wfScalar cs!"-1" = true ∧ wfScalar cs!"1e+22" = true ∧ wfScalar cs!"infj" = true ∧
      wfScalar cs!"Ellipsis" = true ∧
      wfScalar cs!"'it's'" = false ∧ wfScalar cs!"'a\\'" = false ∧ wfScalar cs!"(1+2j)" = false ∧
      wfScalar cs!"a b" = false ∧ wfScalar cs!"" = false := by decide +kernel

/-- The numbers are 1, 2, 3, … in order of first occurrence: the first expression gets `0x0001`. -/
example : hashFn (.node cs!"Name" true cs!"Name(id='a')" (some 1) []) cs!"Name(id='a')" = cs!"0x0001" := by
  decide +kernel

/-- **C15 (stateless).** Because `flatten_ast` first resets the factory (`startState true`), its result
does not depend on the state left by earlier flattenings. -/
theorem C15_stateless (cfg : Cfg) (s s' : HashState) (t : Val) :
    (flattenAst cfg s t).1 = (flattenAst cfg s' t).1 := by
  simp [flattenAst, flattenAstG, startState]

/-- The reset is what makes it so: without it (`doReset = false`) the dump of the same tree depends on
the incoming state — here a factory that has already numbered one other expression. -/
theorem C15_reset_needed :
    ∃ (s : HashState) (t : Val),
      (dumpS [] [] t (startState false s)).1 ≠ (dumpS [] [] t (startState false HashState.reset)).1 := by
  refine ⟨HashState.reset.touch cs!"Name(id='b')", .node cs!"Name" true cs!"Name(id='a')" (some 1) [], ?_⟩
  decide +kernel

/-- **C15 (any sequence).** Flattening any sequence of trees in one process, from any initial
state, gives for each tree the text of a single flattening from a fresh factory. -/
theorem C15_sequence (cfg : Cfg) (s : HashState) (ts : List Val) :
    (flattenSeq cfg s ts).1 = ts.map fun t => (flattenAst cfg HashState.reset t).1 := by
  induction ts generalizing s with
  | nil => rfl
  | cons t ts ih =>
    simp only [flattenSeq, List.map_cons, ih]
    simp [flattenAst, flattenAstG, startState]

/-! ## "With the documented tweaks only": line-level passes are tree-level tweaks

Each of the six passes of `post_process`, applied to the dump of a tree, is the dump of a tree-level
tweak, under *local* clauses (`wfKinds`, `wfAlias`, `wfPosonly`, `wfBackport`, `wfNeg`, `wfUnquote`: per
name / type / scalar line / node shape; Bool-valued). `C15_tweaks_staged` composes the six: under
`wfStages6` (each pass's clauses on the tree that pass receives; evaluated by the driver on every real
tree) post-processing the dump is the dump of `stage6 t`, the six tree-level tweaks in pipeline order.
`C15_stage6_eq_tweak`: under `wfTweak` (shape of `Constant` and `UnaryOp` nodes, agreement of the repr prefix
with the real kind of a constant, field names without `/`; one Bool predicate, evaluated on every real
tree) the six staged tweaks are the one-shot specification `tweak` — which renames constants after their
*real* kind and keys `posonlyargs` on the name path. Hence `C15_tweaks_full` / `C15_flatten_tweaked` speak
about `tweak`. A name in `…_partial` is that of a statement about one pass, or about the first passes of the
pipeline, as opposed to `post_process` as a whole. -/

/-- **C15 (tweak: unquote).** On the dump of a tree satisfying the local clauses of
`wfUnquote` (no `=` in names; types untouched by the pass; a `str` repr is delimited by quotes, no
other repr both starts and ends with a quote), the line-level pass `unquote` is exactly the dump of the tree in which every
`str` scalar has lost its two delimiters — and nothing else has changed. -/
theorem C15_tweak_unquote_partial (t0 t : Val) (hwf : wfUnquote t = true) :
    unquote (dumpP (hashFn t0) [] [] t) = dumpP (hashFn t0) [] [] (unquoteTree t) :=
  unquote_dumpP (hashFn t0) (hashNoQuote_hashFn t0) t [] [] (by simp) (by simp) hwf

/-- **C15 (tweak: suppress_kinds).** On the dump of a tree satisfying `wfKinds` (no `=` or
`/` in names, no `=` in types, a scalar field `kind` is the last field of its node), the line-level pass `suppress_kinds` is exactly the dump of the tree from which the scalar
fields called `kind` have been removed below the root. -/
theorem C15_tweak_kinds_partial (t0 : Val) (ty : Str) (e : Bool) (r : Str) (ln : Option Nat)
    (fs : List (Str × Val)) (hwf : wfKinds (.node ty e r ln fs) = true) :
    suppressKinds (dumpP (hashFn t0) [] [] (.node ty e r ln fs)) =
      dumpP (hashFn t0) [] [] (dropKinds false (.node ty e r ln fs)) :=
  suppressKinds_dumpP (hashFn t0) (eq_not_mem_hashFn t0) _ [] [] (by simp) (by simp) hwf (by intro r k; simp)

/-- **C15 (tweak: suppress_posonlyargs).** On the dump of a tree satisfying `wfPosonly` (no
`=` in names and types, no scalar line that itself looks like a `posonlyargs` length line), the pass
`suppress_posonlyargs` is exactly the dump of the tree in which every list hanging under
`…/args/posonlyargs` (with a non-empty path before) no longer prints its `_length` — its items, and
everything else, are unchanged. -/
theorem C15_tweak_posonly_partial (t0 t : Val) (hwf : wfPosonly [] t = true) :
    suppressPosonlyargs (dumpP (hashFn t0) [] [] t) = dumpP (hashFn t0) [] [] (quietPosonly [] t) :=
  suppressPosonlyargs_dumpP (hashFn t0) (eq_not_mem_hashFn t0) t [] [] (by simp) (by simp) hwf

/-- **C15 (tweak: suppress_alias_pos).** On the dump of a tree satisfying `wfAlias` (no `=` in
names and types; no scalar line ending with `/_type=alias` or looking like a position line), the pass
`suppress_alias_pos` is exactly the dump of the tree in which every non-expression node of type `alias`
below the root has lost its position — nothing else changes. -/
theorem C15_tweak_alias_partial (t0 t : Val) (hwf : wfAlias [] t = true) :
    suppressAliasPos (dumpP (hashFn t0) [] [] t) = dumpP (hashFn t0) [] [] (dropAliasPos false t) := by
  have := (alias_dumpP (hashFn t0) (eq_not_mem_hashFn t0) t [] [] [] (by simp) (by simp) hwf rfl).1
  simpa [suppressAliasPos] using this

/-- **C15 (the first three passes composed).** `suppress_posonlyargs ∘ suppress_alias_pos ∘
suppress_kinds` on the dump of a tree = the dump of the tree after the three tree-level tweaks, under
the local clauses of each pass on its own input tree. -/
theorem C15_tweak_first_three_partial (t0 : Val) (ty : Str) (e : Bool) (r : Str) (ln : Option Nat)
    (fs : List (Str × Val))
    (h1 : wfKinds (.node ty e r ln fs) = true)
    (h2 : wfAlias [] (dropKinds false (.node ty e r ln fs)) = true)
    (h3 : wfPosonly [] (dropAliasPos false (dropKinds false (.node ty e r ln fs))) = true) :
    suppressPosonlyargs (suppressAliasPos (suppressKinds (dumpP (hashFn t0) [] [] (.node ty e r ln fs)))) =
      dumpP (hashFn t0) [] []
        (quietPosonly [] (dropAliasPos false (dropKinds false (.node ty e r ln fs)))) := by
  rw [C15_tweak_kinds_partial t0 ty e r ln fs h1, C15_tweak_alias_partial t0 _ h2,
    C15_tweak_posonly_partial t0 _ h3]

/-- **C15 (tweak: backport_all_constants).** On the dump of a tree satisfying `wfBackport`
(names without `=` and `/`, pairwise distinct among siblings; a `Constant` node is an expression or has a
line number, its first field is the scalar `value` with a non-empty repr and its other fields are
scalars; no scalar line ends with `/_type=Constant`), the pass — whose pattern looks for the **last**
`…/value=` line of the whole rest of the text — is exactly the dump of the tree in which every `Constant`
is renamed after the text of its value and its `value` field is renamed (`s`, `n`, `value`) or dropped
(`Ellipsis`). -/
theorem C15_tweak_backport_partial (t0 t : Val) (hwf : wfBackport [] t = true) :
    backportAllConstants (dumpP (hashFn t0) [] [] t) = dumpP (hashFn t0) [] [] (backportTree t) := by
  have := bp_dumpP (hashFn t0) (eq_not_mem_hashFn t0) t [] [] [] (by simp) (by simp) hwf
    (by intro l hl; cases hl)
  simpa [backportAllConstants] using this

/-- **C15 (the first four passes composed).** Under `wfStages4`, up to `backport_all_constants`: the dump of `stage4`. -/
theorem C15_tweak_first_four_partial (t0 : Val) (ty : Str) (e : Bool) (r : Str) (ln : Option Nat)
    (fs : List (Str × Val)) (hwf : wfStages4 (.node ty e r ln fs) = true) :
    backportAllConstants (suppressPosonlyargs (suppressAliasPos (suppressKinds
        (dumpP (hashFn t0) [] [] (.node ty e r ln fs))))) =
      dumpP (hashFn t0) [] [] (stage4 (.node ty e r ln fs)) := by
  simp only [wfStages4, Bool.and_eq_true] at hwf
  obtain ⟨⟨⟨h1, h2⟩, h3⟩, h4⟩ := hwf
  rw [C15_tweak_first_three_partial t0 ty e r ln fs h1 h2 h3]
  exact C15_tweak_backport_partial t0 _ h4

/-- **C15 (tweak: simplify_negative_literals).** On the dump of a tree satisfying `wfNeg` (names
as for `wfBackport`; a `UnaryOp` has the fields `op`, a bare operator node, and `operand`, a node which —
when the operator is `USub` — either is exactly `(n = scalar)` or has no field `n`; no scalar line ends
with `/_type=UnaryOp`), the pass — two nested lazy searches over the rest of the text — is exactly the
dump of the tree in which every `-literal` has become a `Num` whose `n` carries the minus sign. -/
theorem C15_tweak_neg_partial (t0 t : Val) (hwf : wfNeg [] t = true) :
    simplifyNegativeLiterals (dumpP (hashFn t0) [] [] t) = dumpP (hashFn t0) [] [] (foldNeg t) := by
  have := neg_dumpP (hashFn t0) (eq_not_mem_hashFn t0) t [] [] [] (by simp) (by simp) hwf
    (by intro l hl; cases hl)
  simpa [simplifyNegativeLiterals] using this

/-- **C15 (the documented tweaks only).** Under `wfStages6` (the local clauses of the six passes),
post-processing the dump of a tree is the dump of the tree after the six tree-level tweaks:
`kind` fields dropped, alias positions dropped, `posonlyargs` lengths dropped, constants renamed by the
text of their value, `-literal` folded, strings unquoted — and nothing else. -/
theorem C15_tweaks_staged (t0 : Val) (ty : Str) (e : Bool) (r : Str) (ln : Option Nat)
    (fs : List (Str × Val)) (hwf : wfStages6 (.node ty e r ln fs) = true) :
    postProcess (dumpP (hashFn t0) [] [] (.node ty e r ln fs)) =
      dumpP (hashFn t0) [] [] (stage6 (.node ty e r ln fs)) := by
  simp only [wfStages6, Bool.and_eq_true] at hwf
  obtain ⟨⟨h4, h5⟩, h6⟩ := hwf
  unfold postProcess
  rw [C15_tweak_first_four_partial t0 ty e r ln fs h4, C15_tweak_neg_partial t0 _ h5]
  exact C15_tweak_unquote_partial t0 _ h6

/-- **C15 (the real pipeline).** What `flatten_ast` returns for a tree whose on-the-fly form is
well-formed is the plain dump of the six tree-level tweaks of that form, hashes numbered by first
occurrence in the untweaked tree. -/
theorem C15_flatten_staged (cfg : Cfg) (s : HashState) (t : Val) (ty : Str) (e : Bool) (r : Str)
    (ln : Option Nat) (fs : List (Str × Val)) (ht : prep cfg t = .node ty e r ln fs)
    (hwf : wfStages6 (prep cfg t) = true) :
    (flattenAst cfg s t).1 = dumpP (hashFn (prep cfg t)) [] [] (stage6 (prep cfg t)) := by
  rw [C15_flatten_eq, ht] at *
  exact C15_tweaks_staged _ ty e r ln fs hwf

/-- **C15 (staged = one-shot).** Under `wfTweak` the six staged tree-level tweaks are the one-shot
specification `tweak`. -/
theorem C15_stage6_eq_tweak (t : Val) (h : wfTweak t = true) : stage6 t = tweak [] t := stage6_eq_tweak t h

/-- **C15 (the documented tweaks only), on the specification.** Under `wfStages6` and `wfTweak`,
post-processing the dump of a tree is the dump of `tweak [] t`: constants renamed by their real kind, a
minus sign folded into a numeric literal, `kind` fields / `posonlyargs` lengths / alias positions dropped,
strings unquoted — and nothing else. -/
theorem C15_tweaks_full (t0 : Val) (ty : Str) (e : Bool) (r : Str) (ln : Option Nat)
    (fs : List (Str × Val)) (hwf : wfStages6 (.node ty e r ln fs) = true)
    (hwt : wfTweak (.node ty e r ln fs) = true) :
    postProcess (dumpP (hashFn t0) [] [] (.node ty e r ln fs)) =
      dumpP (hashFn t0) [] [] (tweak [] (.node ty e r ln fs)) := by
  rw [C15_tweaks_staged t0 ty e r ln fs hwf, stage6_eq_tweak _ hwt]

/-- **C15 (the real pipeline), on the specification.** -/
theorem C15_flatten_tweaked (cfg : Cfg) (s : HashState) (t : Val) (ty : Str) (e : Bool) (r : Str)
    (ln : Option Nat) (fs : List (Str × Val)) (ht : prep cfg t = .node ty e r ln fs)
    (hwf : wfStages6 (prep cfg t) = true) (hwt : wfTweak (prep cfg t) = true) :
    (flattenAst cfg s t).1 = dumpP (hashFn (prep cfg t)) [] [] (tweak [] (prep cfg t)) := by
  rw [C15_flatten_staged cfg s t ty e r ln fs ht hwf, stage6_eq_tweak _ hwt]

/-- Non-vacuity: `x = u'a'` (exported shape) satisfies the sets of clauses. -/
def sampleConst : Val :=
  .node cs!"Module" false [] none
    [(cs!"body", .list false
      [.node cs!"Expr" false [] (some 1)
        [(cs!"value", .node cs!"Constant" true cs!"Constant(value='a', kind='u')" (some 1)
          [(cs!"value", .scalar cs!"'a'" .str), (cs!"kind", .scalar cs!"'u'" .str)])]])]

example : wfUnquote sampleConst = true ∧ wfKinds sampleConst = true ∧ wfPosonly [] sampleConst = true ∧
    wfAlias [] sampleConst = true ∧ wfStages4 sampleConst = true ∧ wfStages6 sampleConst = true ∧
    wfTweak sampleConst = true := by
  decide +kernel

example : dumpP id [] [] (stage4 sampleConst) =
    [cs!"/_type=Module", cs!"/body/_length=1", cs!"/body/1/_type=Expr", cs!"/body/1/_pos=1:1-",
     cs!"/body/1/value/_type=Str", cs!"/body/1/value/_hash=Constant(value='a', kind='u')",
     cs!"/body/1/value/_pos=1:1-0-", cs!"/body/1/value/s='a'"] := by decide +kernel
example : suppressKinds (dumpP id [] [] sampleConst) =
    [cs!"/_type=Module", cs!"/body/_length=1", cs!"/body/1/_type=Expr", cs!"/body/1/_pos=1:1-",
     cs!"/body/1/value/_type=Constant", cs!"/body/1/value/_hash=Constant(value='a', kind='u')",
     cs!"/body/1/value/_pos=1:1-0-", cs!"/body/1/value/value='a'"] := by decide +kernel

/-- Non-vacuity of `C15_tweaks_full`: the exported tree of `-5` satisfies `wfStages6`, and its six staged
tweaks give a `Num` with `n=-5` at the place of the `UnaryOp`. -/
def sampleNeg : Val :=
  .node cs!"Module" false [] none
    [(cs!"body", .list false
      [.node cs!"Expr" false [] (some 1)
        [(cs!"value", .node cs!"UnaryOp" true cs!"UnaryOp(op=USub(), operand=Constant(value=5))" (some 1)
          [(cs!"op", .node cs!"USub" false [] none []),
           (cs!"operand", .node cs!"Constant" true cs!"Constant(value=5)" (some 1)
             [(cs!"value", .scalar cs!"5" .num), (cs!"kind", .scalar cs!"None" .nameConst)])])]])]

example : wfStages6 sampleNeg = true ∧ wfTweak sampleNeg = true := by decide +kernel
example : dumpP id [] [] (stage6 sampleNeg) =
    [cs!"/_type=Module", cs!"/body/_length=1", cs!"/body/1/_type=Expr", cs!"/body/1/_pos=1:1-",
     cs!"/body/1/value/_type=Num", cs!"/body/1/value/_hash=UnaryOp(op=USub(), operand=Constant(value=5))",
     cs!"/body/1/value/_pos=1:1-0-", cs!"/body/1/value/n=-5"] := by decide +kernel

/-! ## Escaped terminal values (fix b1d74a8; former findings F17 / F32) -/

/-- The dump that escapes `_pos=` in its scalar case — what `flatten_node` does — is the plain dump of the
tree whose terminal values are escaped (`prep` = on-the-fly tweaks, then `escapeTree`). -/
theorem C15_escape_at_dump (h : Str → Str) (v : Val) (pre path : Str) :
    dumpPE h pre path v = dumpP h pre path (escapeTree v) := dumpPE_eq h v pre path

/-- No `_pos=` survives in an escaped value… -/
theorem C15_escapePos_no_pos (r : Str) : hasInfix cs!"_pos=" (escapePos r) = false := escapePos_no_pos r

/-- … hence the line of an escaped value is never taken for a position line (the clause of `wfAlias`
about scalar lines holds whatever a string constant contains), as long as the *field name* does not end
with `_pos`. -/
theorem C15_escaped_value_not_poslike (pre r : Str) (hpre : '=' ∉ pre) (hsuf : ¬ cs!"_pos" <:+ pre) :
    isPosLike (scalarLine pre (escapePos r)) = false := not_posLike_escaped r hpre hsuf

/-! ## The repaired findings: regression instances (`example`s, not counted as obligations) -/

def asyncDef : Val :=
  .node cs!"AsyncFunctionDef" false [] (some 1)
    [(cs!"name", .scalar cs!"'f'" .str), (cs!"body", .list false []), (cs!"decorator_list", .list false [])]

/-- Former finding 9 (repaired by d0d94f6): the code as written moves the body of every definition
last, `AsyncFunctionDef` included — it is the documented reordering. -/
example :
    implCfg = specCfg ∧
      dumpP id [] [] (onTheFly implCfg asyncDef) =
        [cs!"/_type=AsyncFunctionDef", cs!"/_pos=1:", cs!"/name='f'", cs!"/decorator_list/_length=0",
         cs!"/body/_length=0"] :=
  ⟨rfl, by decide +kernel⟩

/-- Former finding 11 (repaired by c370a5d): the repr-prefix test of `replace_one_constant` agrees
with the real kind for bytes literals of both spellings (`b'…'` and `b"…"`). -/
example :
    (constantKindOfRepr cs!"b\"it's\"").1 = kindTypeName .bytes ∧
      (constantKindOfRepr cs!"b'ab'").1 = kindTypeName .bytes := by decide +kernel

/-- Former findings 15a/15d (repaired by 83ae3f3): a value containing `/kind=` satisfies the clauses
of `wfKinds` and its line is kept by the pass; only the `kind` attribute line goes. -/
example :
    wfKinds (.scalar cs!"'a/kind=b'" .str) = true ∧
      suppressKinds [cs!"/body/1/value/_type=Constant", cs!"/body/1/value/value='a/kind=b'",
          cs!"/body/1/value/kind=None"] =
        [cs!"/body/1/value/_type=Constant", cs!"/body/1/value/value='a/kind=b'"] := by decide +kernel

/-- Former finding 15c (repaired by 0ac09ad): quotes inside a bytes repr are left alone (the clause of
`wfUnquote` holds for it), a `str` loses exactly its two delimiters. -/
example :
    wfUnquote (.scalar cs!"b'=\"'" .bytes) = true ∧
      unquote [cs!"/body/1/value/s=b'=\"'", cs!"/body/1/value/s='a=\"b\"'"] =
        [cs!"/body/1/value/s=b'=\"'", cs!"/body/1/value/s=a=\"b\""] := by decide +kernel

end Paroxy.Props.C15
